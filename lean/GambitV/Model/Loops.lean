/-
Loop combinators of the generated (`GambitV.Gen.*`) definitions, with their invariant rules. Core Lean only.

* `forRangeFrom lo n body s` : `for i in range(lo, lo+n): s = body i s`, with early `return` modelled as
                               `Except.error` (the loop stops at the first `error`); `forRange n` is `forRangeFrom 0 n`.
* `whileFuelE fuel c b s`    : `while c s: s = b s` where the body may `return`; `ok none` means the fuel ran out (a distinct
                               outcome that the tie theorems prove unreachable for the fuel the translator emits).
                               `whileFuel` is the same loop for a body that cannot return.
The translator emits `forRangeFrom` and `whileFuelE`.
-/
namespace GambitV

/-- `for i in range(lo, lo+n)` with loop-carried state `σ` and early exit value `ε`. -/
def forRangeFrom {σ ε : Type} (lo : Nat) : (n : Nat) → (body : Nat → σ → Except ε σ) → σ → Except ε σ
  | 0, _, s => .ok s
  | n + 1, body, s =>
    match body lo s with
    | .ok s' => forRangeFrom (lo + 1) n body s'
    | .error e => .error e

def forRange {σ ε : Type} (n : Nat) (body : Nat → σ → Except ε σ) (s : σ) : Except ε σ :=
  forRangeFrom 0 n body s

def whileFuel {σ : Type} : (fuel : Nat) → (cond : σ → Bool) → (body : σ → σ) → σ → Option σ
  | 0, cond, _, s => if cond s then none else some s
  | fuel + 1, cond, body, s => if cond s then whileFuel fuel cond body (body s) else some s

/-- `while cond: body` where the body may `return` (= `Except.error`); `ok none` = fuel exhausted. -/
def whileFuelE {σ ε : Type} : (fuel : Nat) → (cond : σ → Bool) → (body : σ → Except ε σ) → σ → Except ε (Option σ)
  | 0, cond, _, s => if cond s then .ok none else .ok (some s)
  | fuel + 1, cond, body, s =>
    if cond s then
      match body s with
      | .ok s' => whileFuelE fuel cond body s'
      | .error e => .error e
    else .ok (some s)

theorem forRangeFrom_zero {σ ε : Type} (lo : Nat) (body : Nat → σ → Except ε σ) (s : σ) :
    forRangeFrom lo 0 body s = .ok s := rfl

theorem forRangeFrom_succ {σ ε : Type} (lo n : Nat) (body : Nat → σ → Except ε σ) (s : σ) :
    forRangeFrom lo (n + 1) body s =
      (match body lo s with
       | .ok s' => forRangeFrom (lo + 1) n body s'
       | .error e => .error e) := rfl

theorem forRangeFrom_succ_last {σ ε : Type} (lo n : Nat) (body : Nat → σ → Except ε σ) (s : σ) :
    forRangeFrom lo (n + 1) body s =
      (match forRangeFrom lo n body s with
       | .ok s' => body (lo + n) s'
       | .error e => .error e) := by
  induction n generalizing lo s with
  | zero =>
    simp only [forRangeFrom_succ, forRangeFrom_zero, Nat.add_zero]
    cases body lo s <;> rfl
  | succ n ih =>
    rw [forRangeFrom_succ]
    cases h : body lo s with
    | error e => simp [forRangeFrom_succ, h]
    | ok s' =>
      simp only []
      rw [ih (lo + 1) s']
      conv => rhs; rw [forRangeFrom_succ]
      simp only [h]
      have : lo + 1 + n = lo + (n + 1) := by omega
      rw [this]

/-- Generic invariant rule for a `for` loop whose body never exits early on the states considered. -/
theorem forRangeFrom_inv {σ ε : Type} (body : Nat → σ → Except ε σ) (P : Nat → σ → Prop)
    (lo n : Nat) (s : σ) (h0 : P lo s)
    (hstep : ∀ i s, lo ≤ i → i < lo + n → P i s → ∃ s', body i s = .ok s' ∧ P (i + 1) s') :
    ∃ s', forRangeFrom lo n body s = .ok s' ∧ P (lo + n) s' := by
  induction n generalizing lo s with
  | zero => exact ⟨s, rfl, by simpa using h0⟩
  | succ n ih =>
    obtain ⟨s1, hb, hp⟩ := hstep lo s (Nat.le_refl _) (by omega) h0
    have := ih (lo + 1) s1 hp (fun i s hi hlt hP => hstep i s (by omega) (by omega) hP)
    obtain ⟨s2, h2, hp2⟩ := this
    refine ⟨s2, ?_, ?_⟩
    · rw [forRangeFrom_succ, hb]; exact h2
    · have : lo + 1 + n = lo + (n + 1) := by omega
      rw [← this]; exact hp2

/-- Invariant/variant rule for `whileFuelE`, stated against a name `w` for the loop result so that
the (generated) condition and body are picked up by unification. -/
theorem whileFuelE_inv {σ ε : Type} {cond : σ → Bool} {body : σ → Except ε σ} {fuel : Nat} {s : σ}
    {w : Except ε (Option σ)} (hw : whileFuelE fuel cond body s = w)
    (P : σ → Prop) (μ : σ → Nat)
    (hstep : ∀ s, P s → cond s = true → ∃ s', body s = .ok s' ∧ P s' ∧ μ s' < μ s)
    (h0 : P s) (hμ : μ s ≤ fuel) :
    ∃ s', w = .ok (some s') ∧ P s' ∧ cond s' = false := by
  subst hw
  induction fuel generalizing s with
  | zero =>
    cases hc : cond s with
    | false => exact ⟨s, by simp [whileFuelE, hc], h0, hc⟩
    | true =>
      obtain ⟨s', _, _, hlt⟩ := hstep s h0 hc
      omega
  | succ fuel ih =>
    cases hc : cond s with
    | false => exact ⟨s, by simp [whileFuelE, hc], h0, hc⟩
    | true =>
      obtain ⟨s1, hb, hP1, hlt⟩ := hstep s h0 hc
      obtain ⟨s', h1, h2, h3⟩ := ih (s := s1) hP1 (by omega)
      exact ⟨s', by simp [whileFuelE, hc, hb, h1], h2, h3⟩

theorem whileFuelE_ok {σ ε : Type} (cond : σ → Bool) (body : σ → σ) (fuel : Nat) (s : σ) :
    whileFuelE (ε := ε) fuel cond (fun s => .ok (body s)) s = .ok (whileFuel fuel cond body s) := by
  induction fuel generalizing s with
  | zero =>
    simp only [whileFuelE, whileFuel]
    split <;> rfl
  | succ fuel ih =>
    simp only [whileFuelE, whileFuel, ih]
    split <;> rfl

theorem whileFuel_inv {σ : Type} (cond : σ → Bool) (body : σ → σ) (P : σ → Prop) (μ : σ → Nat)
    (hstep : ∀ s, P s → cond s = true → P (body s) ∧ μ (body s) < μ s) :
    ∀ (fuel : Nat) (s : σ), P s → μ s ≤ fuel →
      ∃ s', whileFuel fuel cond body s = some s' ∧ P s' ∧ cond s' = false := by
  intro fuel s hP hμ
  obtain ⟨s', h, hP', hc⟩ := whileFuelE_inv (whileFuelE_ok (ε := Unit) cond body fuel s) P μ
    (fun s hP hc => ⟨_, rfl, hstep s hP hc⟩) hP hμ
  exact ⟨s', Except.ok.inj h, hP', hc⟩

end GambitV
