import GambitV.Model.JsonResultsFull
import GambitV.Props.C11Json
import GambitV.Props.C11JsonSpec
import GambitV.Tie.PyJsonProps

/-!
# C11 (JSON) — the whole results document

The JSON export of a whole results object: the dump never fails and writes exactly the documented document ("the JSON export is valid JSON
carrying …") whatever JSON-native extra metadata the results and the signatures carry and whatever the parameters are.
-/
namespace GambitV.Json

attribute [-simp] String.reduceToList   -- see `Lemmas/JsonEnc.lean`

private theorem encodeList_of (ex : Exporter) (k : Nat) (f : PVal → PVal) (flist : List PVal → List PVal)
    (hnil : flist [] = []) (hcons : ∀ x xs, flist (x :: xs) = f x :: flist xs) :
    ∀ xs : List PVal, (∀ x ∈ xs, encode ex k (f x) = some (plainJson x)) → encodeList ex k (flist xs) = some (plainJsonList xs)
  | [], _ => by simp [hnil, encodeList, plainJsonList]
  | x :: xs, h => by
    have ih := encodeList_of ex k f flist hnil hcons xs (fun y hy => h y (List.mem_cons_of_mem _ hy))
    simp [hcons, encodeList, plainJsonList, h x (by simp), ih]

private theorem encodeFields_of (ex : Exporter) (k : Nat) (f : PVal → PVal) (ffields : List (List Char × PVal) → List (List Char × PVal))
    (hnil : ffields [] = []) (hcons : ∀ key v rest, ffields ((key, v) :: rest) = (key, f v) :: ffields rest) :
    ∀ kvs : List (List Char × PVal), (∀ kv ∈ kvs, encode ex k (f kv.2) = some (plainJson kv.2)) →
      encodeFields ex k (ffields kvs) = some (plainJsonFields kvs)
  | [], _ => by simp [hnil, encodeFields, plainJsonFields]
  | (key, v) :: rest, h => by
    have ih := encodeFields_of ex k f ffields hnil hcons rest (fun y hy => h y (List.mem_cons_of_mem _ hy))
    have hv := h (key, v) (by simp)
    simp only at hv
    simp [hcons, encodeFields, plainJsonFields, hv, ih]

/-- a plain value is written as it is, and the converter leaves of it what `json` writes for it -/
private theorem encode_plain_both (ex : Exporter) (n : Nat) (v : PVal) (h : Plain v) :
    encode ex (n + 1) v = some (plainJson v) ∧ encode ex (n + 1) (unstructure v) = some (plainJson v) := by
  induction h with
  | list xs _ ih =>
    have h1 := encodeList_of ex (n + 1) id id rfl (fun _ _ => rfl) xs (fun x hx => (ih x hx).1)
    have h2 := encodeList_of ex (n + 1) unstructure unstructureList (by simp [unstructureList]) (by intros; simp [unstructureList]) xs
      (fun x hx => (ih x hx).2)
    simp only [id] at h1
    simp [unstructure, encode, plainJson, h1, h2]
  | dict kvs _ ih =>
    have h1 := encodeFields_of ex (n + 1) id id rfl (fun _ _ _ => rfl) kvs (fun x hx => (ih x hx).1)
    have h2 := encodeFields_of ex (n + 1) unstructure unstructureFields (by simp [unstructureFields]) (by intros; simp [unstructureFields])
      kvs (fun x hx => (ih x hx).2)
    simp only [id] at h1
    simp [unstructure, encode, plainJson, h1, h2]
  | _ => simp [unstructure, encode, encode_hooked, plainJson]

/-- a plain value is written as it is, under any exporter, with any fuel that lets a hooked object through -/
theorem encode_plain (ex : Exporter) (n : Nat) (v : PVal) (h : Plain v) : encode ex (n + 1) v = some (plainJson v) :=
  (encode_plain_both ex n v h).1

theorem encodeFields_plain (ex : Exporter) (n : Nat) (kvs : List (List Char × PVal)) (h : ∀ kv ∈ kvs, Plain kv.2) :
    encodeFields ex (n + 1) kvs = some (plainJsonFields kvs) := by
  have := encodeFields_of ex (n + 1) id id rfl (fun _ _ _ => rfl) kvs (fun kv hkv => encode_plain ex n kv.2 (h kv hkv))
  simpa only [id] using this

private theorem encode_json_genomeset (n : Nat) (g : JGenomeSet) : encode jsonExporter (n + 1) g.toPVal = some (genomeSetJson g) := by
  simp only [JGenomeSet.toPVal, encode_inst, jsonExporter_eq, json_walk, String.reduceEq]
  simp [genomeSetJson, encode, encodeFields, encode_optStr]

private theorem encode_json_sigmeta (n : Nat) (m : JSigMeta) (hm : ∀ kv ∈ m.extra, Plain kv.2) :
    encode jsonExporter (n + 2) m.toPVal = some (sigMetaJson m) := by
  have hl : lookup "SignaturesMeta".toList jsonExporter = none := by simp only [jsonExporter_eq, json_walk, String.reduceEq]
  have hx := (encode_plain_both jsonExporter n (.dict m.extra) (Plain.dict _ hm)).2
  rw [unstructure] at hx
  rw [JSigMeta.toPVal, encode_of_toJson (toJson_no_rule _ hl)]
  simp [unstructure, unstructureFields, unstructure_optStr, sigMetaJson, encode, encodeFields, encode_optStr, hx, plainJson]

private theorem rest_ne_params (r : JResults) : ∀ kv ∈ [("genomeset".toList, r.genomeset.toPVal), ("signaturesmeta".toList, r.sigmeta.toPVal),
    ("gambit_version".toList, PVal.str r.gambitVersion), ("timestamp".toList, PVal.hooked r.timestamp),
    ("extra".toList, PVal.dict r.extra)], kv.1 ≠ "params".toList := by
  intro kv hkv
  simp only [List.mem_cons, List.not_mem_nil, or_false] at hkv
  rcases hkv with rfl | rfl | rfl | rfl | rfl <;> simp [String.toList_inj]

/-- the whole document: for every results object whose extra metadata are JSON-native the export succeeds and is `resultsJson` -/
theorem json_results_full (n : Nat) (r : JResults) (hx : ∀ kv ∈ r.extra, Plain kv.2) (hm : ∀ kv ∈ r.sigmeta.extra, Plain kv.2) :
    encode jsonExporter (n + 6) r.toPVal = some (resultsJson r) := by
  unfold JResults.toPVal resultsJson
  refine json_results n r.items r.params _ _ (rest_ne_params r) ?_
  have hxj := encodeFields_plain jsonExporter (n + 4) r.extra hx
  simp [encodeFields, encode, encode_json_genomeset (n + 4), encode_json_sigmeta (n + 3) r.sigmeta hm, encode_hooked, hxj]

/-- … it carries label, reported taxon, next taxon and closest genomes of every query, in order -/
theorem json_results_full_carries (r : JResults) : resultsCarried r.toPVal (resultsJson r) = true := by
  unfold JResults.toPVal resultsJson
  exact resultsCarried_json r.items r.params _ _

/-- … and the same holds of the conversion rules as the current source has them -/
theorem py_json_results_full (n : Nat) (r : JResults) (hx : ∀ kv ∈ r.extra, Plain kv.2) (hm : ∀ kv ∈ r.sigmeta.extra, Plain kv.2) :
    ∃ j, encode Gen.pyJsonExporter (n + 6) r.toPVal = some j ∧ resultsCarried r.toPVal j = true := by
  refine ⟨resultsJson r, ?_, json_results_full_carries r⟩
  rw [GambitV.Tie.Py.json_rules_eq]
  exact json_results_full n r hx hm

/-- the parameters do not reach the document: two results objects that differ in their parameters only are exported alike -/
theorem json_results_params_irrelevant (n : Nat) (r : JResults) (p : PVal) :
    encode jsonExporter (n + 6) ({ r with params := p }).toPVal = encode jsonExporter (n + 6) r.toPVal := by
  unfold JResults.toPVal
  rw [encode_of_toJson (toJson_json_results _ p _ (rest_ne_params r)), encode_of_toJson (toJson_json_results _ r.params _ (rest_ne_params r))]

end GambitV.Json
