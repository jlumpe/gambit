import GambitV.Props.C11Json
import GambitV.Spec.JsonCarries

/-!
# C11 (JSON) — the export carries what the statement names

The statement's predicate (`Spec/JsonCarries.lean`: the export carries label, reported taxon, next taxon and
closest-genome data of every query) holds of the documented JSON, and is not vacuous.  Both come from the `*Carried_iff` lemmas,
which say what the predicate means between a record and the documented JSON of another record.
-/
namespace GambitV.Json

attribute [-simp] String.reduceToList   -- see `Lemmas/JsonEnc.lean`

theorem leafEq_optInt (a b : Option Int) : leafEq (some (optInt a)) (some (jInt b)) = true ↔ a = b := by
  cases a <;> cases b <;> simp [leafEq, optInt, jInt]

theorem leafEq_optFloat (a b : Option Nat) : leafEq (some (optFloat a)) (some (jFloat b)) = true ↔ a = b := by
  cases a <;> cases b <;> simp [leafEq, optFloat, jFloat]

theorem leafEq_optStr (a b : Option (List Char)) : leafEq (some (optStr a)) (some (jStr b)) = true ↔ a = b := by
  cases a <;> cases b <;> simp [leafEq, optStr, jStr]

theorem leafEq_str (a b : List Char) : leafEq (some (.str a)) (some (.str b)) = true ↔ a = b := by
  simp [leafEq]

theorem leafEq_float (a b : Nat) : leafEq (some (.float a)) (some (.float b)) = true ↔ a = b := by simp [leafEq]

theorem taxonCarried_iff (a b : JTaxon) : taxonCarried (some a.toPVal) (some (taxonJson b)) = true ↔
    a.key = b.key ∧ a.name = b.name ∧ a.rank = b.rank ∧ a.ncbiId = b.ncbiId ∧ a.threshold = b.threshold := by
  simp only [taxonCarried, JTaxon.toPVal_eq, JTaxon.columns_eq, taxonJson_eq, json_walk, String.reduceEq, List.all_cons, List.all_nil,
    Bool.and_eq_true, leafEq_optInt, leafEq_optStr, leafEq_optFloat, leafEq_str, and_true]

theorem taxonCarried_json (t : JTaxon) : taxonCarried (some t.toPVal) (some (taxonJson t)) = true :=
  (taxonCarried_iff t t).2 ⟨rfl, rfl, rfl, rfl, rfl⟩

private theorem zipAll_map {α β γ : Type} (p : β → γ → Bool) (f : α → β) (g : α → γ) (h : ∀ a, p (f a) (g a) = true) (l : List α) :
    zipAll p (l.map f) (l.map g) = true := by
  induction l with
  | nil => simp [zipAll]
  | cons a l ih => simp [zipAll, h, ih]

private theorem zipAll_length {α β : Type} (p : α → β → Bool) : ∀ (xs : List α) (ys : List β), zipAll p xs ys = true → xs.length = ys.length
  | [], [], _ => rfl
  | [], _ :: _, h => by simp [zipAll] at h
  | _ :: _, [], h => by simp [zipAll] at h
  | _ :: xs, _ :: ys, h => by
    simp only [zipAll, Bool.and_eq_true] at h
    simp [zipAll_length p xs ys h.2]

theorem optTaxonCarried_json (t : Option JTaxon) : taxonCarried (some (optTaxon t)) (some (optTaxonJson t)) = true := by
  cases t with
  | none => simp [optTaxon, optTaxonJson, taxonCarried]
  | some t => simpa [optTaxon, optTaxonJson] using taxonCarried_json t

theorem matchCarried_iff (a b : JMatch) : matchCarried a.toPVal (matchJson b) = true ↔
    a.genome.key = b.genome.key ∧ a.genome.description = b.genome.description ∧ a.distance = b.distance
    ∧ taxonCarried (some (optTaxon a.matched)) (some (optTaxonJson b.matched)) = true
    ∧ zipAll (fun t x => taxonCarried (some t) (some x)) (a.genome.taxonomy.map JTaxon.toPVal) (b.genome.taxonomy.map taxonJson) = true := by
  simp only [matchCarried, JMatch.toPVal_eq, JGenome.toPVal_eq, JTaxon.toPValWith_eq, JTaxon.columns_eq, matchJson_eq, genomeJson_eq,
    json_walk, String.reduceEq, Bool.and_eq_true, leafEq_str, leafEq_optStr, leafEq_float, and_assoc]

theorem matchCarried_json (m : JMatch) : matchCarried m.toPVal (matchJson m) = true :=
  (matchCarried_iff m m).2 ⟨rfl, rfl, rfl, optTaxonCarried_json _,
    zipAll_map (fun t x => taxonCarried (some t) (some x)) JTaxon.toPVal taxonJson taxonCarried_json _⟩

theorem itemCarried_iff (a b : JItem) : itemCarried a.toPVal (itemJson b) = true ↔
    a.label = b.label ∧ taxonCarried (some (optTaxon a.report)) (some (optTaxonJson b.report)) = true
    ∧ taxonCarried (some (optTaxon a.next)) (some (optTaxonJson b.next)) = true
    ∧ zipAll matchCarried (a.closest.map JMatch.toPVal) (b.closest.map matchJson) = true := by
  simp only [itemCarried, JItem.toPVal_eq, JItem.inputPVal_eq, JItem.resultPVal_eq, itemJson_eq, inputJson_eq,
    json_walk, String.reduceEq, Bool.and_eq_true, leafEq_str, and_assoc]

/-- the documented element of `items` carries the label, the reported taxon, the next taxon and the closest genomes of the query -/
theorem itemCarried_json (it : JItem) : itemCarried it.toPVal (itemJson it) = true :=
  (itemCarried_iff it it).2 ⟨rfl, optTaxonCarried_json _, optTaxonCarried_json _, zipAll_map _ _ _ matchCarried_json _⟩

/-- … and so does the whole export, whatever else the results object holds -/
theorem resultsCarried_json (items : List JItem) (p : PVal) (rest : List (List Char × PVal)) (restJ : List (List Char × Json)) :
    resultsCarried (.inst "QueryResults".toList true (("items".toList, .list (items.map JItem.toPVal)) :: ("params".toList, p) :: rest))
      (.obj (("items".toList, .arr (items.map itemJson)) :: restJ)) = true := by
  simp [resultsCarried, json_walk, zipAll_map _ JItem.toPVal itemJson itemCarried_json]

/-- the predicate is not vacuous: it tells two labels apart -/
theorem itemCarried_label (a b : JItem) (h : itemCarried a.toPVal (itemJson b) = true) : a.label = b.label :=
  ((itemCarried_iff a b).1 h).1

/-- … and two distances that differ in the last bit -/
theorem matchCarried_distance (a b : JMatch) (h : matchCarried a.toPVal (matchJson b) = true) :
    a.distance = b.distance ∧ a.genome.key = b.genome.key ∧ a.genome.description = b.genome.description :=
  have h := (matchCarried_iff a b).1 h
  ⟨h.2.2.1, h.1, h.2.1⟩

private theorem optTaxonCarried_key (a b : Option JTaxon) (h : taxonCarried (some (optTaxon a)) (some (optTaxonJson b)) = true) :
    a.map (·.key) = b.map (·.key) := by
  cases a <;> cases b
  · rfl
  · simp [optTaxon, optTaxonJson, taxonJson_eq, taxonCarried] at h
  · simp [optTaxon, optTaxonJson, JTaxon.toPVal_eq, taxonCarried] at h
  · exact congrArg some ((taxonCarried_iff _ _).1 h).1

/-- … nor does it confuse reported or next taxa with different keys, or closest-genome lists of different lengths -/
theorem itemCarried_report (a b : JItem) (h : itemCarried a.toPVal (itemJson b) = true) :
    a.report.map (·.key) = b.report.map (·.key) ∧ a.next.map (·.key) = b.next.map (·.key) ∧ a.closest.length = b.closest.length := by
  have h := (itemCarried_iff a b).1 h
  refine ⟨optTaxonCarried_key _ _ h.2.1, optTaxonCarried_key _ _ h.2.2.1, ?_⟩
  simpa using zipAll_length _ _ _ h.2.2.2

end GambitV.Json
