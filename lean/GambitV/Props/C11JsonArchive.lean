import GambitV.Model.JsonArchiveRead
import GambitV.Lemmas.ListAux
import GambitV.Props.C11Json
import GambitV.Tie.PyJsonProps

/-!
# C11 (JSON) — the archive document read back

The archive format at the level of the JSON document: what the writer writes for an item, read back by key within the genome set,
is the item — every distance to the last bit, warnings, error, success flag, label and file included.
-/
namespace GambitV.Json

attribute [-simp] String.reduceToList   -- see `Lemmas/JsonEnc.lean`

private theorem readKey_keyJson (k : List Char) : readKey (keyJson k) = some k := by
  simp [keyJson_eq, readKey, json_walk]

private theorem readOptStr_jStr (o : Option (List Char)) : readOptStr (jStr o) = some o := by
  cases o <;> rfl

private theorem readFile_write (f : Option JFile) : readFile (archiveFileJson f) = some f := by
  cases f with
  | none => rfl
  | some f =>
    simp [archiveFileJson_some, readFile, Json.get?, json_walk, readStr, readOptStr_jStr]

theorem readOptTaxon_write (db : JDb) (t : Option JTaxon) (h : ∀ x, t = some x → db.taxon x.key = some x) :
    readOptTaxon db (optKeyJson t) = some t := by
  cases t with
  | none => rfl
  | some x =>
    have hk := readKey_keyJson x.key
    simp only [optKeyJson]
    rw [keyJson_eq] at hk ⊢
    simp only [readOptTaxon, hk, Option.bind_some, h x rfl, Option.map_some]

theorem readMatch_write (db : JDb) (m : JMatch) (h : MatchIn db m) : readMatch db (archiveMatchJson m) = some m := by
  simp [readMatch, archiveMatchJson_eq, json_walk, readKey_keyJson, h.1, readFloat,
    readOptTaxon_write db m.matched h.2]

private theorem readOptMatch_write (db : JDb) (m : Option JMatch) (h : ∀ x, m = some x → MatchIn db x) :
    readOptMatch db (optArchiveMatchJson m) = some m := by
  cases m with
  | none => rfl
  | some x =>
    have hm := readMatch_write db x (h x rfl)
    rw [archiveMatchJson_eq] at hm
    simp only [optArchiveMatchJson, archiveMatchJson_eq, readOptMatch, hm, Option.map_some]

/-- round trip of the archive document: an item whose database objects are in the genome set is read back as it was -/
theorem archive_read_write (db : JDb) (it : JItem) (h : ItemIn db it) : readItem db (archiveItemJson it) = some it := by
  obtain ⟨hp, hn, hr, hpm, hcm, hcl⟩ := h
  simp only [readItem, archiveItemJson_eq, json_walk, String.reduceEq, Option.bind_eq_bind]
  simp [readStr, readBool, readList, readFile_write, readOptStr_jStr, readOptTaxon_write db _ hp, readOptTaxon_write db _ hn,
    readOptTaxon_write db _ hr, readOptMatch_write db _ hpm, readMatch_write db _ hcm,
    mapM_map_some readStr Json.str it.warnings (fun _ _ => rfl),
    mapM_map_some (readMatch db) archiveMatchJson it.closest (fun m hm => readMatch_write db m (hcl m hm))]

/-- … through the writer rules of the current source and the model's encoder -/
theorem py_archive_read_write (n : Nat) (db : JDb) (it : JItem) (h : ItemIn db it) :
    (encode Gen.pyArchiveExporter (n + 4) it.toPVal).bind (readItem db) = some it := by
  rw [GambitV.Tie.Py.py_archive_item, Option.bind_some]
  exact archive_read_write db it h

/-- without the hypothesis the statement fails: a key that the genome set resolves to another object gives another item back
(the reason the reader must look keys up *within the genome set of the archive*) -/
theorem archive_read_needs_closed :
    ∃ (db : JDb) (it it' : JItem), it ≠ it' ∧ readItem db (archiveItemJson it) = some it' := by
  -- the genome set holds, under the default key, a taxon with another name than the one the item reports
  let t : JTaxon := { (default : JTaxon) with name := ['a'] }
  let db : JDb := { taxa := [default], genomes := [default] }
  let it : JItem := { (default : JItem) with report := some t }
  let it' : JItem := { (default : JItem) with report := some default }
  have hne : it ≠ it' := by decide
  have hkeys : it.keys = it'.keys := by decide
  have hin : ItemIn db it' := by
    refine ⟨?_, ?_, ?_, ?_, ?_, ?_⟩
    · intro t ht; exact absurd (show (none : Option JTaxon) = some t from ht) (by simp)
    · intro t ht; exact absurd (show (none : Option JTaxon) = some t from ht) (by simp)
    · intro t ht
      obtain rfl : (default : JTaxon) = t := Option.some.inj ht
      decide
    · intro m hm; exact absurd (show (none : Option JMatch) = some m from hm) (by simp)
    · exact ⟨by decide, fun t ht => absurd (show (none : Option JTaxon) = some t from ht) (by simp)⟩
    · intro m hm; exact absurd (show m ∈ ([] : List JMatch) from hm) (by simp)
  refine ⟨db, it, it', hne, ?_⟩
  rw [archive_keys_only it it' hkeys]
  exact archive_read_write db it' hin

end GambitV.Json
