import GambitV.Model.JsonResults
import GambitV.Lemmas.JsonEnc

/-!
# C11 (JSON) — what the two JSON exporters write

These four files (`C11Json`, `C11JsonSpec`, `C11JsonFull`, `C11JsonArchive`) are about the JSON documents (`JItem`, `Model/JsonResults.lean`);
`Props/C11.lean` is about the CSV table and the archive at the level of keys (`ItemRec`, `Model/Export.lean`).

The encoder of `Model/Json.lean`, run with the conversion rules of the two exporters of `results.py`, writes exactly the
documented JSON of `Model/JsonResults.lean` for the result objects; the documented JSON is a faithful image of what the statement asks
of it; the archive format keeps the keys of the database objects and nothing else of them.
-/
namespace GambitV.Json

attribute [-simp] String.reduceToList   -- see `Lemmas/JsonEnc.lean`

/-! ### `JSONResultsExporter`: the encoder run with the exporter's rules writes the documented JSON -/

/-- A `Taxon` is written as its six columns, `None` as `null`.  Fuel: `encode` spends one unit at every object it hands to `to_json`,
so an object nested `k` classes deep needs `k`; `n + k` says that any more does no harm (`defaultFuel` is `20 + 4`). -/
theorem encode_json_taxon (n : Nat) (t : JTaxon) : encode jsonExporter (n + 1) t.toPVal = some (taxonJson t) := by
  rw [encode_of_toJson (toJson_json_taxon t)]
  simp [JTaxon.columns_eq, taxonJson_eq, encode, encodeFields, encode_optInt, encode_optStr, encode_optFloat]

theorem encode_json_optTaxon (n : Nat) (t : Option JTaxon) : encode jsonExporter (n + 1) (optTaxon t) = some (optTaxonJson t) := by
  cases t with
  | none => simp [optTaxon, optTaxonJson, encode]
  | some t => simp [optTaxon, optTaxonJson, encode_json_taxon]

/-- an `AnnotatedGenome`: its columns, `id` for `genome_id`, and under `taxonomy` the lineage of its taxon, itself first -/
theorem encode_json_genome (n : Nat) (g : JGenome) : encode jsonExporter (n + 2) g.toPVal = some (genomeJson g) := by
  rw [encode_of_toJson (toJson_json_genome g)]
  simp [genomeJson_eq, encode, encodeFields, encode_optInt, encode_optStr,
    encodeList_map jsonExporter (n + 1) JTaxon.toPVal taxonJson (encode_json_taxon n)]

/-- `GenomeMatch` has no rule: the converter takes it apart, the genome and the taxon inside then go by their rules -/
theorem encode_json_match (n : Nat) (m : JMatch) : encode jsonExporter (n + 3) m.toPVal = some (matchJson m) := by
  have hl : lookup "GenomeMatch".toList jsonExporter = Option.none := by simp only [jsonExporter_eq, json_walk, String.reduceEq]
  rw [JMatch.toPVal_eq, encode_of_toJson (toJson_no_rule _ hl)]
  simp [unstructure, unstructureFields, unstructure_genome, unstructure_optTaxon, matchJson_eq, encode, encodeFields,
    encode_json_genome n m.genome, encode_json_optTaxon (n + 1) m.matched]

private theorem encode_json_input (n : Nat) (it : JItem) : encode jsonExporter (n + 2) it.inputPVal = some (inputJson it) := by
  rw [encode_of_toJson (toJson_json_input it)]
  cases h : it.file with
  | none => simp [inputJson_eq, h, encode, encodeFields]
  | some f => simp [inputJson_eq, h, encode, encodeFields, encode_hooked]

/-- one query's element: label / path / format of the input, reported taxon, next taxon, closest genomes in order -/
theorem json_item (n : Nat) (it : JItem) : encode jsonExporter (n + 4) it.toPVal = some (itemJson it) := by
  rw [encode_of_toJson (toJson_json_item it)]
  simp [itemJson_eq, encode, encodeFields, encode_json_input (n + 1) it, encode_json_optTaxon (n + 2),
    encodeList_map jsonExporter (n + 3) JMatch.toPVal matchJson (encode_json_match n)]

theorem json_item_default (it : JItem) : encode jsonExporter defaultFuel it.toPVal = some (itemJson it) :=
  json_item 20 it

/-- the whole export: `items` has one element per query, in order, each the documented image; `params` is omitted; the other
attributes of the results object are written under their own names -/
theorem json_results (n : Nat) (items : List JItem) (p : PVal) (rest : List (List Char × PVal)) (restJ : List (List Char × Json))
    (hrest : ∀ kv ∈ rest, kv.1 ≠ "params".toList)
    (henc : encodeFields jsonExporter (n + 5) rest = some restJ) :
    encode jsonExporter (n + 6) (.inst "QueryResults".toList true (("items".toList, .list (items.map JItem.toPVal)) :: ("params".toList, p) :: rest))
      = some (.obj (("items".toList, .arr (items.map itemJson)) :: restJ)) := by
  rw [encode_of_toJson (toJson_json_results _ p rest hrest)]
  simp [encode, encodeFields, henc, encodeList_map jsonExporter (n + 5) JItem.toPVal itemJson (json_item (n + 1))]

/-- what the statement asks of the JSON export: label, reported taxon, next taxon and closest-genome data can be read off it -/
theorem json_projection (it : JItem) :
    (itemJson it).path? ["query".toList, "name".toList] = some (.str it.label)
    ∧ (itemJson it).get? "predicted_taxon".toList = some (optTaxonJson it.report)
    ∧ (itemJson it).get? "next_taxon".toList = some (optTaxonJson it.next)
    ∧ (itemJson it).get? "closest_genomes".toList = some (.arr (it.closest.map matchJson)) := by
  simp [itemJson_eq, inputJson_eq, Json.path?, Json.get?, json_walk]

theorem taxonJson_injective : Function.Injective taxonJson := fun _ _ h => taxonJson_inj.mp h

theorem optTaxonJson_injective : Function.Injective optTaxonJson := fun _ _ h => optTaxonJson_inj.mp h

/-- a closest-genome entry determines the genome's identifiers and description, its lineage, the distance (to the last bit) and the matched taxon -/
theorem matchJson_faithful (a b : JMatch) (h : matchJson a = matchJson b) :
    a.genome.key = b.genome.key ∧ a.genome.description = b.genome.description ∧ a.genome.genomeId = b.genome.genomeId
    ∧ a.genome.taxonomy = b.genome.taxonomy ∧ a.distance = b.distance ∧ a.matched = b.matched := by
  simp only [matchJson_eq, genomeJson_eq, Json.obj.injEq, Json.arr.injEq, List.cons.injEq, Prod.mk.injEq, Json.str.injEq, Json.int.injEq,
    Json.float.injEq, jStr_inj, jInt_inj, optTaxonJson_inj, List.map_inj_right (fun _ _ => taxonJson_inj.mp), true_and, and_true] at h
  obtain ⟨⟨hk, hd, -, -, -, -, -, hi, ht⟩, hdist, hm⟩ := h
  exact ⟨hk, hd, hi, ht, hdist, hm⟩

/-- faithful image: two items with the same JSON agree on label, reported taxon, next taxon and the closest-genome entries -/
theorem itemJson_faithful (a b : JItem) (h : itemJson a = itemJson b) :
    a.label = b.label ∧ a.report = b.report ∧ a.next = b.next ∧ a.closest.map matchJson = b.closest.map matchJson := by
  simp only [itemJson_eq, inputJson_eq, Json.obj.injEq, Json.arr.injEq, List.cons.injEq, Prod.mk.injEq, Json.str.injEq, optTaxonJson_inj,
    true_and, and_true] at h
  exact ⟨h.1.1, h.2.1, h.2.2.1, h.2.2.2⟩

/-- an object of a class the exporter has no rule for, and that is not an `attrs` class, is never written silently: the dump raises -/
theorem encode_unknown_raises (ex : Exporter) (n : Nat) (cls : List Char) (attrs : List (List Char × PVal)) (h : lookup cls ex = none) :
    encode ex n (.inst cls false attrs) = none := by
  cases n with
  | zero => simp [encode]
  | succ n => simp [encode_inst, toJson, h]

/-! ### `ResultsArchiveWriter`: keys only -/

theorem archive_match (n : Nat) (m : JMatch) : encode archiveExporter (n + 2) m.toPVal = some (archiveMatchJson m) := by
  have hl : lookup "GenomeMatch".toList archiveExporter = Option.none := by
    simp only [archiveExporter_eq, json_walk, String.reduceEq]
  rw [JMatch.toPVal_eq, encode_of_toJson (toJson_no_rule _ hl), ← JMatch.toPVal_eq]
  exact encode_archive_unst_match n m

theorem archive_item (n : Nat) (it : JItem) : encode archiveExporter (n + 4) it.toPVal = some (archiveItemJson it) := by
  have hl : lookup "QueryResultItem".toList archiveExporter = Option.none := by
    simp only [archiveExporter_eq, json_walk, String.reduceEq]
  rw [JItem.toPVal_eq, encode_of_toJson (toJson_no_rule _ hl)]
  simp [JItem.inputPVal_eq, JItem.resultPVal_eq, archiveItemJson_eq, unstructure, unstructureFields, unstructureList_eq,
    unstructure_optTaxon, unstructure_optStr, encode, encodeFields, encode_archive_unst_optFile, encode_archive_optTaxon (n + 2),
    encode_archive_unst_optMatch (n + 2), encode_archive_unst_match (n + 2), encode_optStr,
    encodeList_map archiveExporter (n + 3) (unstructure ∘ JMatch.toPVal) archiveMatchJson (encode_archive_unst_match (n + 2)),
    encodeList_map archiveExporter (n + 3) (unstructure ∘ PVal.str) Json.str (fun s => by simp [unstructure, encode])]

theorem archive_item_default (it : JItem) : encode archiveExporter defaultFuel it.toPVal = some (archiveItemJson it) :=
  archive_item 20 it

/-- the archive keeps of the database objects their keys and nothing else … -/
theorem archive_keys_only (a b : JItem) (h : a.keys = b.keys) : archiveItemJson a = archiveItemJson b :=
  archiveItemJson_inj.2 h

/-- … and loses nothing of the keys, distances (bit patterns), warnings, error, success flag, label and file -/
theorem archive_faithful (a b : JItem) (h : archiveItemJson a = archiveItemJson b) : a.keys = b.keys :=
  archiveItemJson_inj.1 h

end GambitV.Json
