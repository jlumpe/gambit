import GambitV.Lemmas.Kmers

/-!
# C07 — K-mer/index conversion is the base-4 bijection, consistent with reverse complement

The per-byte facts and the equations of `encodeFrom` (general accumulator) are in `Lemmas/Kmers.lean`; the
theorems about `encode`, `decode`, the 64-bit loop, `revcomp` and `index_dtype` are proved here. All of them
quantify over arbitrary byte strings / all `k`; nothing is bounded.
-/
namespace GambitV.C07
open GambitV

/-- A=0, C=1, G=2, T=3, in either case. -/
theorem digit_table :
    nucCode 65 = some 0 ∧ nucCode 67 = some 1 ∧ nucCode 71 = some 2 ∧ nucCode 84 = some 3 ∧
    nucCode 97 = some 0 ∧ nucCode 99 = some 1 ∧ nucCode 103 = some 2 ∧ nucCode 116 = some 3 := by
  decide

/-- Positional code: the first nucleotide is the most significant base-4 digit. -/
theorem encode_cons (b : UInt8) (s : List UInt8) :
    encode (b :: s) = (nucCode b).bind (fun d => (encode s).map (d * 4 ^ s.length + ·)) := by
  unfold encode
  simp only [encodeFrom]
  cases nucCode b with
  | none => rfl
  | some d => simp only [Option.bind_some]; rw [encodeFrom_eq]; simp

theorem encode_nil : encode [] = some 0 := rfl

/-- Every index produced is below `4^k`. -/
theorem encode_lt (s : List UInt8) (i : Nat) (h : encode s = some i) : i < 4 ^ s.length := by
  induction s generalizing i with
  | nil => cases h; decide
  | cons b s ih =>
    simp only [encode_cons, Option.bind_eq_some_iff, Option.map_eq_some_iff] at h
    obtain ⟨d, hb, r, hs, rfl⟩ := h
    have := Nat.mul_le_mul_right (4 ^ s.length) (Nat.le_of_lt_succ (nucCode_lt b d hb))
    have := ih r hs
    rw [List.length_cons, Nat.pow_succ]
    omega

/-- `index_to_kmer` followed by `kmer_to_index` is the identity on `0 .. 4^k-1`. -/
theorem encode_decode (k i : Nat) (h : i < 4 ^ k) : encode (decode i k) = some i := by
  induction k generalizing i with
  | zero => rw [Nat.pow_zero, Nat.lt_one_iff] at h; subst h; rfl
  | succ k ih =>
    simp only [decode]
    rw [Nat.pow_succ'] at h
    rw [encode_snoc, ih (i / 4) (Nat.div_lt_of_lt_mul h)]
    simp only [Option.bind_some]
    rw [nucCode_nucLetter _ (Nat.mod_lt _ (by decide))]
    simp only [Option.map_some, Option.some.injEq]
    exact Nat.div_add_mod' i 4

/-- `kmer_to_index` followed by `index_to_kmer` gives back the k-mer, upper-cased. -/
theorem decode_encode (s : List UInt8) (i : Nat) (h : encode s = some i) :
    decode i s.length = upper s := by
  induction s using list_snoc_induction generalizing i with
  | nil => rfl
  | snoc s b ih =>
    simp only [encode_snoc, Option.bind_eq_some_iff, Option.map_eq_some_iff] at h
    obtain ⟨a, hs, d, hb, rfl⟩ := h
    have hd := nucCode_lt b d hb
    simp only [List.length_append, List.length_cons, List.length_nil, Nat.zero_add, decode]
    rw [(div_mod_digit a d hd).1, (div_mod_digit a d hd).2, ih a hs, nucLetter_nucCode b d hb]
    simp [upper]

/-- The decoder always yields a string of length `k` over upper-case `ACGT`. -/
theorem decode_wf (i k : Nat) : (decode i k).length = k ∧ ∀ b ∈ decode i k, b ∈ [65, 67, 71, 84] := by
  induction k generalizing i with
  | zero => simp [decode]
  | succ k ih =>
    obtain ⟨hl, hm⟩ := ih (i / 4)
    refine ⟨by simp [decode, hl], fun b hb => ?_⟩
    simp only [decode, List.mem_append, List.mem_singleton] at hb
    rcases hb with hb | rfl
    · exact hm b hb
    · exact (by decide : ∀ d < 4, nucLetter d ∈ [65, 67, 71, 84]) _ (Nat.mod_lt _ (by decide))

/-- Input case is ignored. -/
theorem encode_upper (s : List UInt8) : encode (upper s) = encode s :=
  encodeFrom_map_upper 0 s

/-- A k-mer is rejected exactly when it contains a byte other than `ACGTacgt`. -/
theorem encode_none_iff (s : List UInt8) :
    encode s = none ↔ ∃ b ∈ s, b ∉ [65, 67, 71, 84, 97, 99, 103, 116] := by
  unfold encode
  simp only [encodeFrom_none_iff, nucCode_eq_none_iff]

/-- Injectivity up to case: two k-mers of the same length with the same index are equal
after upper-casing.  Together with `encode_decode`/`encode_lt` this makes `encode` a bijection
between upper-case `ACGT` strings of length `k` and `0 .. 4^k-1`. -/
theorem encode_inj (s t : List UInt8) (i : Nat) (hl : s.length = t.length)
    (hs : encode s = some i) (ht : encode t = some i) : upper s = upper t := by
  rw [← decode_encode s i hs, ← decode_encode t i ht, hl]

theorem encode_surj (k i : Nat) (h : i < 4 ^ k) :
    ∃ s : List UInt8, s.length = k ∧ (∀ b ∈ s, b ∈ [65, 67, 71, 84]) ∧ encode s = some i :=
  ⟨decode i k, (decode_wf i k).1, (decode_wf i k).2, encode_decode k i h⟩

/-- Wrapper guard: anything longer than 32 is rejected, never encoded. -/
theorem too_long_rejected (s : List UInt8) (h : s.length > 32) :
    kmerToIndex s = .error .tooLong ∧ kmerToIndexRc s = .error .tooLong := by
  simp [kmerToIndex, kmerToIndexRc, h]

theorem wrapper_ok_iff (s : List UInt8) (i : Nat) :
    kmerToIndex s = .ok i ↔ s.length ≤ 32 ∧ encode s = some i := by
  unfold kmerToIndex
  split
  · constructor
    · intro h; cases h
    · intro h; omega
  · cases encode s with
    | none => simp
    | some j => simp only [Except.ok.injEq, Option.some.injEq, iff_and_self]; omega

/-! ### 64-bit accumulator: no wrap-around under the guard -/

/-- One step of the machine loop, as long as the result fits 64 bits. -/
theorem shiftAdd_toNat (acc : UInt64) (d : Nat) (h : acc.toNat * 4 + d < 2 ^ 64) :
    ((acc <<< 2) + UInt64.ofNat d).toNat = acc.toNat * 4 + d := by
  have h2 : (2 : UInt64).toNat % 64 = 2 := by decide
  rw [UInt64.toNat_add, UInt64.toNat_shiftLeft, h2, Nat.shiftLeft_eq, UInt64.toNat_ofNat']
  omega

/-- `j` is the number of digits already in `acc`. -/
theorem encodeU64From_eq (acc : UInt64) (j : Nat) (s : List UInt8)
    (hacc : acc.toNat < 4 ^ j) (hlen : j + s.length ≤ 32) :
    (encodeU64From acc s).map UInt64.toNat = encodeFrom acc.toNat s := by
  induction s generalizing acc j with
  | nil => simp [encodeU64From, encodeFrom]
  | cons b s ih =>
    simp only [encodeU64From, encodeFrom]
    cases hb : nucCode b with
    | none => rfl
    | some d =>
      simp only [List.length_cons] at hlen
      have hd := nucCode_lt b d hb
      have hlt : acc.toNat * 4 + d < 4 ^ (j + 1) := by rw [Nat.pow_succ]; omega
      -- the accumulator stays below `4^32 = 2^64`, so the machine step is the mathematical one
      have hpow : (4 : Nat) ^ (j + 1) ≤ 2 ^ 64 :=
        Nat.le_trans (Nat.pow_le_pow_right (by decide) (by omega)) (by decide : (4 : Nat) ^ 32 ≤ 2 ^ 64)
      have hval := shiftAdd_toNat acc d (by omega)
      dsimp only
      rw [ih _ (j + 1) (by rw [hval]; exact hlt) (by omega), hval]

/-- The shift-and-add loop on a 64-bit accumulator computes the mathematical index for every
k-mer the wrapper lets through (`k ≤ 32`). -/
theorem u64_no_wrap (s : List UInt8) (h : s.length ≤ 32) :
    (encodeU64 s).map UInt64.toNat = encode s := by
  have := encodeU64From_eq 0 0 s (by decide) (by omega)
  simpa [encodeU64, encode] using this

theorem revcomp_length (s : List UInt8) : (revcomp s).length = s.length := by
  simp [revcomp]

theorem revcomp_involutive (s : List UInt8) : revcomp (revcomp s) = s := by
  simp only [revcomp, List.map_reverse, List.reverse_reverse, List.map_map]
  have : comp ∘ comp = id := by funext b; exact comp_comp b
  simp [this]

/-- Byte `i` of the reverse complement is the complement of the byte in the mirrored position. -/
theorem revcomp_get (s : List UInt8) (i : Nat) (h : i < s.length) :
    (revcomp s)[i]'(by rw [revcomp_length]; exact h) = comp (s[s.length - 1 - i]'(by omega)) := by
  simp [revcomp, List.getElem_reverse]

/-- Complement table: swaps A/T and C/G preserving case; fixes every other byte. -/
theorem comp_table (b : UInt8) :
    (b = 65 → comp b = 84) ∧ (b = 84 → comp b = 65) ∧ (b = 67 → comp b = 71) ∧ (b = 71 → comp b = 67) ∧
    (b = 97 → comp b = 116) ∧ (b = 116 → comp b = 97) ∧ (b = 99 → comp b = 103) ∧ (b = 103 → comp b = 99) ∧
    (b ∉ [65, 67, 71, 84, 97, 99, 103, 116] → comp b = b) := by
  refine ⟨?_, ?_, ?_, ?_, ?_, ?_, ?_, ?_, fun h => ?_⟩
  iterate 8
    rintro rfl
    rfl
  simp only [List.mem_cons, List.not_mem_nil, or_false, not_or] at h
  simp only [comp, h, if_false]

/-- The index computed by the reverse-complement encoder is the index of the reverse complement. -/
theorem encodeRc_eq (s : List UInt8) : encodeRc s = encode (revcomp s) := by
  unfold encodeRc encode revcomp
  rw [← List.map_reverse, encodeFrom_map_comp]

/-- The thresholds of `index_dtype` in linear form: `w` bytes are chosen when `k ≤ 4 w`, and every
smaller width `w'` on offer has `4 w' < k`. -/
theorem indexDtypeBytes_some (k w : Nat) (h : indexDtypeBytes k = some w) :
    k ≤ 4 * w ∧ ∀ w' ∈ [1, 2, 4, 8], w' < w → 4 * w' < k := by
  unfold indexDtypeBytes at h
  simp only [List.mem_cons, List.not_mem_nil, or_false]
  repeat' split at h
  all_goals cases h
  all_goals exact ⟨by omega, by omega⟩

/-- `index_dtype(k)` is the smallest of the 1/2/4/8-byte unsigned types holding `4^k - 1`. -/
theorem indexDtype_minimal (k w : Nat) (h : indexDtypeBytes k = some w) :
    4 ^ k ≤ 2 ^ (8 * w) ∧ ∀ w' ∈ [1, 2, 4, 8], w' < w → 2 ^ (8 * w') < 4 ^ k := by
  have h4 : (4 : Nat) ^ k = 2 ^ (2 * k) := (Nat.pow_mul 2 2 k).symm
  obtain ⟨h1, h2⟩ := indexDtypeBytes_some k w h
  rw [h4]
  exact ⟨Nat.pow_le_pow_right (by decide) (by omega),
    fun w' hw' hlt => Nat.pow_lt_pow_right (by decide) (by have := h2 w' hw' hlt; omega)⟩

theorem indexDtype_none_iff (k : Nat) : indexDtypeBytes k = none ↔ k > 32 := by
  unfold indexDtypeBytes
  repeat' split
  all_goals simp only [reduceCtorEq, false_iff, true_iff]
  all_goals omega

/-! ### Non-vacuity: concrete instances of the hypotheses -/

-- "ACGT" ↦ 0*64 + 1*16 + 2*4 + 3 = 27, and back.
example : encode [65, 67, 71, 84] = some 27 := by decide
example : decode 27 4 = [65, 67, 71, 84] := by decide
-- lower case accepted, 'N' rejected
example : encode [97, 99, 103, 116] = some 27 ∧ encode [65, 78] = none := by decide
-- reverse complement of "AACG" is "CGTT"; mixed case / N kept in mirrored position
example : revcomp [65, 65, 67, 71] = [67, 71, 84, 84] ∧ revcomp [97, 78, 67] = [71, 78, 116] := by decide
example : encodeRc [65, 65, 67, 71] = encode [67, 71, 84, 84] := by decide

end GambitV.C07
