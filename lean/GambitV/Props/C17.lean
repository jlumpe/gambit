import GambitV.Lemmas.Cluster
import GambitV.Lemmas.Upgma

/-!
# C17 — the tree built from a linkage matrix: leaves, branch lengths, ultrametricity; the UPGMA model produces such a linkage

`Model/Cluster.lean` follows `gambit.cluster.linkage_to_bio_tree`: the clade list starts with one
leaf per label; every linkage row sets the branch lengths of its two children to
`row height − child height` and appends the new clade; the tree is the last clade.

For a well-formed linkage (`ValidLinkage`, `Lemmas/Cluster.lean`: what SciPy guarantees — `n − 1`
rows, row `r` merges two distinct existing clusters `< n + r`, every cluster but the last is merged
exactly once, heights non-negative and monotone) the tree

* is the unfolding of the linkage (`tree_from_linkage`),
* has exactly the labels `0 … n−1` as leaves, each once (`leaves_perm`),
* has no negative branch length (`branch_nonneg`),
* is ultrametric: every leaf is at distance = root height from the root (`ultrametric`), and at every
  internal node every leaf below is at distance = the height of the linkage row that created the
  node, so the path between leaves of its two children is twice that height
  (`path_eq_twice_merge_height`).

Helper lemmas (the loop invariant) live in `Lemmas/Cluster.lean`.  The second half of the file (`upgma_*`, `replay_*`) is about
the executable UPGMA model and has its own introduction there.  Core Lean only.

The labels `9`–`13` in the docstrings number the target statements of `notes/C16_C17_statements.md` (`1`–`8` there are the CSV and
C16 items; `0` is an addition), `U1`–`U9` those of `notes/c17_upgma_statements.md`.  A primed name (`leaves_perm'`) is the same fact said of a
tree that is given (`linkageToTree n link = some t`) instead of asserted to exist.
-/
namespace GambitV.C17
open GambitV

/-- The tree exists and is the clade of the last cluster; the loop invariant holds for the final list. -/
theorem tree_exists {n : Nat} {link : List LinkRow} (h : ValidLinkage n link = true) :
    linkageToTree n link = some ((buildClades n link).getD (n + link.length - 1) (.leaf 0 0)) ∧
      BuildInv n link link.length (buildClades n link) := by
  obtain ⟨hn, _, hrows, _⟩ := validLinkage_iff.1 h
  have inv := buildInv_final n link hrows
  exact ⟨linkageToTree_eq n link hn, inv⟩

/-- The tree of a well-formed linkage: it exists, is the unfolding of the last cluster, its leaves are the labels
`0 … n−1`, each once, and no branch is negative. -/
theorem tree_spec {n : Nat} {link : List LinkRow} (h : ValidLinkage n link = true) :
    ∃ t, linkageToTree n link = some t ∧ t.FromLink n link (n + link.length - 1) ∧
      t.leaves.Perm (List.range n) ∧ t.nonneg = true := by
  obtain ⟨hn, _, _, hperm⟩ := validLinkage_iff.1 h
  obtain ⟨ht, inv⟩ := tree_exists h
  exact ⟨_, ht, inv.fromLink _ (last_cluster_lt hn _), root_leaves_perm n link hn inv hperm,
    inv.nonneg _ (last_cluster_lt hn _)⟩

theorem of_tree {n : Nat} {link : List LinkRow} {P : Clade → Prop} (h : ∃ t, linkageToTree n link = some t ∧ P t)
    {t : Clade} (ht : linkageToTree n link = some t) : P t := by
  obtain ⟨t', ht', hp⟩ := h
  cases ht.symm.trans ht'
  exact hp

/-- 0. The tree is the unfolding of the linkage from its last cluster (index `2n − 2`). -/
theorem tree_from_linkage {n : Nat} {link : List LinkRow} (h : ValidLinkage n link = true) :
    ∃ t, linkageToTree n link = some t ∧ t.FromLink n link (n + link.length - 1) := by
  obtain ⟨t, ht, hf, -, -⟩ := tree_spec h
  exact ⟨t, ht, hf⟩

/-- 9. The leaves of the tree are exactly the labels `0 … n−1`, each once. -/
theorem leaves_perm {n : Nat} {link : List LinkRow} (h : ValidLinkage n link = true) :
    ∃ t, linkageToTree n link = some t ∧ t.leaves.Perm (List.range n) := by
  obtain ⟨t, ht, -, hp, -⟩ := tree_spec h
  exact ⟨t, ht, hp⟩

/-- 10. No branch below the root has negative length. -/
theorem branch_nonneg {n : Nat} {link : List LinkRow} (h : ValidLinkage n link = true) :
    ∃ t, linkageToTree n link = some t ∧ t.nonneg = true := by
  obtain ⟨t, ht, -, -, hp⟩ := tree_spec h
  exact ⟨t, ht, hp⟩

/-- 9b/10b. The same with the tree given. -/
theorem leaves_perm' {n : Nat} {link : List LinkRow} (h : ValidLinkage n link = true) (t : Clade)
    (ht : linkageToTree n link = some t) : t.leaves.Perm (List.range n) :=
  of_tree (leaves_perm h) ht

theorem branch_nonneg' {n : Nat} {link : List LinkRow} (h : ValidLinkage n link = true) (t : Clade)
    (ht : linkageToTree n link = some t) : t.nonneg = true :=
  of_tree (branch_nonneg h) ht

/-- The tree is ultrametric at every node, with the root at the height of the last linkage row. -/
theorem tree_ultra {n : Nat} {link : List LinkRow} (h : ValidLinkage n link = true) :
    ∃ t, linkageToTree n link = some t ∧ t.Ultra ((link.getLast?.map (·.height)).getD 0) := by
  obtain ⟨t, ht, hf⟩ := tree_from_linkage h
  exact ⟨t, ht, nodeHeight_root n link (validLinkage_iff.1 h).1 ▸ hf.ultra⟩

/-- 11. All leaves are equidistant from the root: at the height of the last linkage row. -/
theorem ultrametric {n : Nat} {link : List LinkRow} (h : ValidLinkage n link = true) :
    ∃ t, linkageToTree n link = some t ∧
      ∀ p ∈ t.depths, p.2 = (link.getLast?.map (·.height)).getD 0 := by
  obtain ⟨t, ht, hu⟩ := tree_ultra h
  exact ⟨t, ht, hu.depths⟩

/-- 11b. The same with the tree given. -/
theorem ultrametric' {n : Nat} {link : List LinkRow} (h : ValidLinkage n link = true) (t : Clade)
    (ht : linkageToTree n link = some t) :
    ∀ p ∈ t.depths, p.2 = (link.getLast?.map (·.height)).getD 0 :=
  of_tree (ultrametric h) ht

/-- 12. For every internal node `node a b _` of the tree there is a linkage row (the one that created
it: `a`, `b` are the unfoldings of its two clusters) such that every leaf of `a` and every leaf of
`b` is at distance exactly that row's height from the node; hence the path between a leaf of `a`
and a leaf of `b` has length twice the merge height. -/
theorem path_eq_twice_merge_height {n : Nat} {link : List LinkRow} (h : ValidLinkage n link = true) :
    ∃ t, linkageToTree n link = some t ∧
      ∀ a b x, Clade.node a b x ∈ t.subs →
        ∃ (r : Nat) (row : LinkRow), link[r]? = some row ∧
          a.FromLink n link row.left ∧ b.FromLink n link row.right ∧
          (∀ p ∈ a.depths, p.2 + a.len = row.height) ∧
          (∀ q ∈ b.depths, q.2 + b.len = row.height) ∧
          (∀ p ∈ a.depths, ∀ q ∈ b.depths, (p.2 + a.len) + (q.2 + b.len) = 2 * row.height) := by
  obtain ⟨t, ht, hf⟩ := tree_from_linkage h
  refine ⟨t, ht, ?_⟩
  intro a b x hs
  obtain ⟨j, hj⟩ := hf.subs _ hs
  obtain ⟨row, hrow, h1, h3, h4, -, -⟩ := Clade.fromLink_node.1 hj
  have hu := hj.ultra
  rw [nodeHeight_row h1 hrow] at hu
  obtain ⟨ha, hb⟩ := hu.node_depths
  refine ⟨j - n, row, hrow, h3, h4, ha, hb, ?_⟩
  intro p hp q hq
  have := ha p hp
  have := hb q hq
  omega

/-- every sub-clade is ultrametric (a recursive reading of `Clade.Ultra`) -/
theorem subs_ultra {n : Nat} {link : List LinkRow} (h : ValidLinkage n link = true) :
    ∃ t, linkageToTree n link = some t ∧ ∀ s ∈ t.subs, ∃ j, s.Ultra (nodeHeight n link j) := by
  obtain ⟨t, ht, hf⟩ := tree_from_linkage h
  refine ⟨t, ht, ?_⟩
  intro s hs
  obtain ⟨j, hj⟩ := hf.subs s hs
  exact ⟨j, hj.ultra⟩

/-! ### 13. Non-vacuity -/

def exLink : List LinkRow := [⟨2, 3, 25⟩, ⟨0, 1, 50⟩, ⟨4, 5, 75⟩]

example : ValidLinkage 4 exLink = true := by decide

example : linkageToTree 4 exLink =
    some (.node (.node (.leaf 2 25) (.leaf 3 25) 50) (.node (.leaf 0 50) (.leaf 1 50) 25) 0) := by decide

example : (linkageToTree 4 exLink).map Clade.depths = some [(2, 75), (3, 75), (0, 75), (1, 75)] := by decide

example : (linkageToTree 4 exLink).map Clade.leaves = some [2, 3, 0, 1] := by decide

example : (linkageToTree 4 exLink).map Clade.nonneg = some true := by decide

/-- a single observation: no rows, the tree is the leaf -/
example : ValidLinkage 1 [] = true ∧ linkageToTree 1 [] = some (.leaf 0 0) := by decide

/-- rejected: a cluster merged twice; a child that does not exist yet; a height inversion -/
example : ValidLinkage 3 [⟨0, 1, 10⟩, ⟨0, 2, 20⟩] = false := by decide
example : ValidLinkage 3 [⟨0, 3, 10⟩, ⟨1, 2, 20⟩] = false := by decide
example : ValidLinkage 3 [⟨0, 1, 20⟩, ⟨3, 2, 10⟩] = false := by decide

/-- without monotone heights the conversion does produce a negative branch -/
example : (linkageToTree 3 [⟨0, 1, 20⟩, ⟨3, 2, 10⟩]).map Clade.nonneg = some false := by decide

/-! ## The executable UPGMA model (`Model/Upgma.lean`) produces a valid linkage

`upgma D n` agglomerates `n` observations by average linkage in exact arithmetic.  The theorems below
say: it emits `n − 1` rows (U1) whose children are a permutation of `0 … 2n−3` (U2) with positive
denominators (U3); the height of a row is exactly the average of `D` over the observations below its
two children (U4); each step merges a pair of minimal average distance (U5); for a symmetric matrix the
heights never decrease (U6); so for a symmetric non-negative matrix the common-denominator linkage
`toLink (upgma D n)` satisfies `ValidLinkage` (U7) and all tree theorems above apply (U8).
Helper lemmas and the loop invariant `UInv` live in `Lemmas/Upgma.lean`. -/

/-- U1. `n − 1` rows. -/
theorem upgma_length {D : List (List Int)} {n : Nat} (_hn : 1 ≤ n) : (upgma D n).length = n - 1 :=
  upgma_length_eq D n

/-- U2a. The children of row `t` exist already (`< n + t`) and are distinct. -/
theorem upgma_children_lt {D : List (List Int)} {n t : Nat} {r : QRow} (h : (upgma D n)[t]? = some r) :
    r.left < n + t ∧ r.right < n + t ∧ r.left ≠ r.right :=
  (uinv_of_row D h).rows_ok t r h

/-- U2. Every cluster except the last is merged exactly once. -/
theorem upgma_children_perm {D : List (List Int)} {n : Nat} (hn : 1 ≤ n) :
    (linkChildren (toLink (upgma D n))).Perm (List.range (n + (n - 1) - 1)) := by
  have inv := uinv_final D hn
  obtain ⟨c, hact, hc⟩ := inv.act_final
  have hp := inv.perm
  rw [hact, List.map_singleton, hc, (last_cluster_succ hn (n - 1)).symm, List.range_succ] at hp
  rw [linkChildren_toLink]
  exact (List.perm_append_right_iff _).1 hp

/-- U3. Denominators are positive. -/
theorem upgma_den_pos {D : List (List Int)} {n : Nat} : ∀ r ∈ upgma D n, 0 < r.den := by
  intro r hr
  obtain ⟨t, ht⟩ := List.getElem?_of_mem hr
  exact ((uinv_of_row D ht).rows_avg t r ht).1

/-- U4 (general fuel). The height `num / den` of row `t` is exactly the average of `D` over
(observations below the left child) × (observations below the right child), for any fuels `f1`, `f2`
with `1 ≤ f` and `child + 2 ≤ f + n` (`FuelOk`); both observation lists are non-empty. -/
theorem upgma_height_is_average_fuel {D : List (List Int)} {n t : Nat} {r : QRow} (hn : 1 ≤ n)
    (h : (upgma D n)[t]? = some r) (f1 f2 : Nat) (h1 : FuelOk n f1 r.left) (h2 : FuelOk n f2 r.right) :
    rowLeaves n (upgma D n) f1 r.left ≠ [] ∧ rowLeaves n (upgma D n) f2 r.right ≠ [] ∧
    r.num = sumD D (rowLeaves n (upgma D n) f1 r.left) (rowLeaves n (upgma D n) f2 r.right) ∧
    r.den = (rowLeaves n (upgma D n) f1 r.left).length * (rowLeaves n (upgma D n) f2 r.right).length :=
  ((uinv_final D hn).rows_avg t r h).2 f1 f2 h1 h2

/-- U4. The same with the fuel `n + t` (which is sufficient: the children of row `t` are `< n + t`). -/
theorem upgma_height_is_average {D : List (List Int)} {n t : Nat} {r : QRow} (hn : 1 ≤ n)
    (h : (upgma D n)[t]? = some r) :
    r.num = sumD D (rowLeaves n (upgma D n) (n + t) r.left) (rowLeaves n (upgma D n) (n + t) r.right) ∧
    r.den = (rowLeaves n (upgma D n) (n + t) r.left).length * (rowLeaves n (upgma D n) (n + t) r.right).length := by
  obtain ⟨hl, hr, _⟩ := upgma_children_lt h
  exact (upgma_height_is_average_fuel hn h (n + t) (n + t) (FuelOk.of_lt hn hl) (FuelOk.of_lt hn hr)).2.2

/-- U4b. The observations below the last cluster (number `2n − 2`) are a permutation of `0 … n−1`
(for any fuel `f ≥ n`; `n = (upgma D n).length + 1`). -/
theorem upgma_leaves_partition {D : List (List Int)} {n : Nat} (hn : 1 ≤ n) (f : Nat) (hf : n ≤ f) :
    (rowLeaves n (upgma D n) f (n + (n - 1) - 1)).Perm (List.range n) := by
  have inv := uinv_final D hn
  obtain ⟨c, hact, hc⟩ := inv.act_final
  have hl := inv.leaves
  rw [hact, List.flatMap_singleton] at hl
  have := inv.act_leaves c (by rw [hact]; exact List.mem_singleton.2 rfl) f ⟨Nat.le_trans hn hf, by omega⟩
  rw [hc] at this
  exact this ▸ hl

/-- U5. Every step merges a pair of minimal average distance among all active clusters. -/
theorem upgma_step_minimal {D : List (List Int)} {n k : Nat} (hk : k < n - 1) :
    ∃ i j, argminPair D (upgmaRun D k (upgmaInit n)).act = some (i, j) ∧ i < j ∧
      j < (upgmaRun D k (upgmaInit n)).act.length ∧
      ∀ p q, p < q → q < (upgmaRun D k (upgmaInit n)).act.length →
        avgLt D (memAt (upgmaRun D k (upgmaInit n)).act p) (memAt (upgmaRun D k (upgmaInit n)).act q)
          (memAt (upgmaRun D k (upgmaInit n)).act i) (memAt (upgmaRun D k (upgmaInit n)).act j) = false := by
  obtain ⟨i, j, h1, h2, h3, h4, -, -⟩ := upgma_step D (Nat.add_lt_of_lt_sub hk) rfl
  exact ⟨i, j, h1, h2, h3, noCloser_iff.1 h4⟩

/-- U5b. …and the row emitted by that step is the row `k` of the result: children = the numbers of the two
clusters, height = their average distance. -/
theorem upgma_step_row {D : List (List Int)} {n k : Nat} (hk : k < n - 1) :
    ∃ i j, argminPair D (upgmaRun D k (upgmaInit n)).act = some (i, j) ∧
      (upgma D n)[k]? = some (mergeRow D (upgmaRun D k (upgmaInit n)).act i j) := by
  obtain ⟨i, j, h1, -, -, -, -, h6⟩ := upgma_step D (Nat.add_lt_of_lt_sub hk) rfl
  exact ⟨i, j, h1, h6⟩

/-- U6. For a symmetric matrix the heights never decrease (reducibility of average linkage). -/
theorem upgma_monotone {D : List (List Int)} {n t : Nat} {r1 r2 : QRow} (hs : SymmD D)
    (h1 : (upgma D n)[t]? = some r1) (h2 : (upgma D n)[t + 1]? = some r2) :
    r1.num * (r2.den : Int) ≤ r2.num * (r1.den : Int) := by
  have hlt : t + 1 < (upgma D n).length := (List.getElem?_eq_some_iff.1 h2).1
  rw [upgma_length_eq] at hlt
  obtain ⟨i, j, -, hij, hj, hmin, hS, hr1⟩ := upgma_step D (Nat.lt_of_lt_of_le hlt (Nat.sub_le n 1)) rfl
  obtain ⟨p, q, -, hpq, hq, -, -, hr2⟩ := upgma_step D (Nat.add_lt_of_lt_sub hlt) rfl
  rw [h1, Option.some.injEq] at hr1
  rw [h2, Option.some.injEq] at hr2
  rw [hS] at hq hr2
  subst hr1 hr2
  exact (avgLt_false_iff ..).1 (noCloser_iff.1 (hmin.merge hs (perm_erase2 _ hij hj) rfl) p q hpq hq)

/-- U6b. The same for any two rows `t ≤ t'`. -/
theorem upgma_monotone_all {D : List (List Int)} {n t t' : Nat} {r1 r2 : QRow} (hs : SymmD D) (htt : t ≤ t')
    (h1 : (upgma D n)[t]? = some r1) (h2 : (upgma D n)[t']? = some r2) :
    r1.num * (r2.den : Int) ≤ r2.num * (r1.den : Int) := by
  obtain ⟨d, rfl⟩ : ∃ d, t' = t + d := ⟨t' - t, (Nat.add_sub_cancel' htt).symm⟩
  induction d generalizing r2 with
  | zero => cases h1.symm.trans h2; exact Int.le_refl _
  | succ d ih =>
    have hm : t + d < (upgma D n).length := Nat.lt_of_succ_lt (List.getElem?_eq_some_iff.1 h2).1
    have hmid := List.getElem?_eq_getElem hm
    have p1 : (0 : Int) < r1.den := Int.natCast_pos.2 (upgma_den_pos r1 (List.mem_of_getElem? h1))
    have p2 : (0 : Int) < (upgma D n)[t + d].den := Int.natCast_pos.2 (upgma_den_pos _ (List.getElem_mem hm))
    have p3 : (0 : Int) < r2.den := Int.natCast_pos.2 (upgma_den_pos r2 (List.mem_of_getElem? h2))
    exact frac_le_trans p1 p2 p3 (ih (Nat.le_add_right t d) hmid) (upgma_monotone hs hmid h2)

/-- U7. For a symmetric matrix without negative entries, the linkage (heights brought to the common
denominator `commonDen`) is well-formed in the sense of `ValidLinkage`. -/
theorem upgma_valid {D : List (List Int)} {n : Nat} (hs : SymmD D) (hp : NonnegD D) (hn : 1 ≤ n) :
    ValidLinkage n (toLink (upgma D n)) = true := by
  have hlen : (toLink (upgma D n)).length = n - 1 := by
    unfold toLink
    rw [List.length_map, upgma_length_eq]
  refine validLinkage_iff.2 ⟨hn, hlen, fun t row h => ?_, hlen ▸ upgma_children_perm hn⟩
  rw [toLink_getElem?] at h
  obtain ⟨r, hr, rfl⟩ := Option.map_eq_some_iff.1 h
  obtain ⟨hl, hrt, hne⟩ := upgma_children_lt hr
  have hnn : (0 : Int) ≤ r.num * ((commonDen (upgma D n) / r.den : Nat) : Int) := by
    refine Int.mul_nonneg ?_ (Int.natCast_nonneg _)
    rw [(upgma_height_is_average hn hr).1]
    exact sumD_nonneg hp _ _
  -- a child `c < n + t` is a leaf (height 0) or an earlier row, whose height is not larger
  have hchild : ∀ c, c < n + t →
      nodeHeight n (toLink (upgma D n)) c ≤ r.num * ((commonDen (upgma D n) / r.den : Nat) : Int) := by
    intro c hc
    by_cases hcn : c < n
    · rw [nodeHeight_of_lt _ hcn]; exact hnn
    · have hct : c - n < t := Nat.sub_lt_left_of_lt_add (Nat.le_of_not_lt hcn) hc
      have hc' : c - n < (upgma D n).length := Nat.lt_trans hct (List.getElem?_eq_some_iff.1 hr).1
      have hr' := List.getElem?_eq_getElem hc'
      rw [nodeHeight_of_le _ (Nat.le_of_not_lt hcn), List.getD_eq_getElem?_getD, toLink_getElem?, hr']
      exact toLink_height_le (List.getElem_mem hc') (List.mem_of_getElem? hr) (upgma_den_pos _ (List.getElem_mem hc'))
        (upgma_den_pos r (List.mem_of_getElem? hr)) (upgma_monotone_all hs (Nat.le_of_lt hct) hr' hr)
  exact ⟨hl, hrt, hne, hnn, hchild _ hl, hchild _ hrt⟩

/-- U8. Hence the tree built from the UPGMA linkage exists, has exactly the labels `0 … n−1` as leaves,
no negative branch, and all leaves are equidistant from the root (at the height of the last row). -/
theorem upgma_tree_ok {D : List (List Int)} {n : Nat} (hs : SymmD D) (hp : NonnegD D) (hn : 1 ≤ n) :
    ∃ t, linkageToTree n (toLink (upgma D n)) = some t ∧ t.leaves.Perm (List.range n) ∧ t.nonneg = true ∧
      t.FromLink n (toLink (upgma D n)) (n + (toLink (upgma D n)).length - 1) ∧
      t.Ultra (((toLink (upgma D n)).getLast?.map (·.height)).getD 0) ∧
      ∀ p ∈ t.depths, p.2 = ((toLink (upgma D n)).getLast?.map (·.height)).getD 0 := by
  have hv := upgma_valid hs hp hn
  obtain ⟨t, ht, hf, hl, hnn⟩ := tree_spec hv
  exact ⟨t, ht, hl, hnn, hf, of_tree (tree_ultra hv) ht, ultrametric' hv t ht⟩

/-- U9. A replayed merge (somebody else's choice, e.g. SciPy's) that `replayStep` accepts is a merge of two
distinct active clusters of minimal average distance. -/
theorem replay_minimal {D : List (List Int)} {s s' : UState} {l r : Nat} (h : replayStep D s l r = some s') :
    ∃ i j, findPos s.act l = some i ∧ findPos s.act r = some j ∧ i ≠ j ∧
      ∀ p q, p < q → q < s.act.length →
        avgLt D (memAt s.act p) (memAt s.act q) (memAt s.act i) (memAt s.act j) = false := by
  obtain ⟨i, j, hi, hj, hne, hmin, _⟩ := replayStep_eq_some h
  exact ⟨i, j, hi, hj, hne, fun p q hpq hq => hmin (p, q) (mem_idxPairs.2 ⟨hpq, hq⟩)⟩

/-- U9b. …and the state it produces: the row names the two clusters, its height is their average distance. -/
theorem replay_row {D : List (List Int)} {s s' : UState} {l r : Nat} (h : replayStep D s l r = some s') :
    ∃ i j, findPos s.act l = some i ∧ findPos s.act r = some j ∧
      s'.rows = s.rows ++ [⟨l, r, sumD D (memAt s.act i) (memAt s.act j),
        (memAt s.act i).length * (memAt s.act j).length⟩] ∧ s'.next = s.next + 1 := by
  obtain ⟨i, j, hi, hj, _, _, rfl⟩ := replayStep_eq_some h
  exact ⟨i, j, hi, hj, rfl, rfl⟩

/-- U9c. If the model meets no tie on `D` (`upgmaTieFree`), then every merge sequence that
`replayRun` accepts — each merge a minimal pair, e.g. SciPy's — yields the model's rows, up to the order
in which a row names its two children.  `SymmD D` is needed: the
replay may name the pair in the other order and then reads `sumD D B A` instead of `sumD D A B`; see the
counterexample `Dasym2` below. -/
theorem replay_eq_of_tieFree {D : List (List Int)} {n : Nat} {ms : List (Nat × Nat)} {s : UState}
    (hs : SymmD D) (htf : upgmaTieFree D n = true) (hn : 1 ≤ n) (hlen : ms.length = n - 1)
    (h : replayRun D ms (upgmaInit n) = some s) :
    s.rows.map (fun m => (min m.left m.right, max m.left m.right, m.num, m.den)) =
      (upgma D n).map (fun m => (min m.left m.right, max m.left m.right, m.num, m.den)) := by
  have rel := replay_run_rel hs ms 0 (upgmaInit n) (upgmaInit n) s (uinv_init D n hn) (RelS.refl _)
    (by rw [hlen]; exact Nat.sub_add_cancel hn) (by rw [hlen]; exact htf) h
  rw [hlen] at rel
  exact rel.rows

/-! ### Non-vacuity of the UPGMA theorems -/

def D4 : List (List Int) := [[0, 2, 6, 10], [2, 0, 5, 9], [6, 5, 0, 4], [10, 9, 4, 0]]

example : upgma D4 4 = [⟨0, 1, 2, 1⟩, ⟨2, 3, 4, 1⟩, ⟨4, 5, 30, 4⟩] := by decide
example : ValidLinkage 4 (toLink (upgma D4 4)) = true := by decide
example : upgmaTieFree D4 4 = true := by decide

theorem D4_symm : SymmD D4 := symmD_of_check (m := 4) (by decide)
theorem D4_nonneg : NonnegD D4 := nonnegD_of_check (m := 4) (by decide)

/-- the hypotheses of U7/U8 are satisfiable: the general theorem applies to `D4` -/
example : ValidLinkage 4 (toLink (upgma D4 4)) = true := upgma_valid D4_symm D4_nonneg (by decide)

example : linkageToTree 4 (toLink (upgma D4 4)) =
    some (.node (.node (.leaf 0 8) (.leaf 1 8) 22) (.node (.leaf 2 16) (.leaf 3 16) 14) 0) := by decide

/-- a replay of the same merges in the other order of naming is accepted, a non-minimal merge is not -/
example : (replayRun D4 [(1, 0), (3, 2), (5, 4)] (upgmaInit 4)).isSome = true := by decide
example : (replayRun D4 [(2, 3)] (upgmaInit 4)).isSome = false := by decide

/-- `SymmD` is needed for U6: an asymmetric matrix whose second merge is lower than its first
(the first step reads `D[0][1] = 5`, the second reads `D[2][0] + D[2][1] = 0`). -/
def Dasym : List (List Int) := [[0, 5, 10], [0, 0, 10], [0, 0, 0]]

example : upgma Dasym 3 = [⟨0, 1, 5, 1⟩, ⟨2, 3, 0, 2⟩] := by decide
example : ¬ ((5 : Int) * ((2 : Nat) : Int) ≤ 0 * ((1 : Nat) : Int)) := by decide
example : ¬ SymmD Dasym := fun h => absurd (h 0 1) (by decide)
example : ValidLinkage 3 (toLink (upgma Dasym 3)) = false := by decide

/-- `SymmD` is needed for `replay_eq_of_tieFree`: on this asymmetric tie-free matrix the replay that names
the only pair as `(1, 0)` is accepted but reads the height `D[1][0] = 1`, the model reads `D[0][1] = 5`. -/
def Dasym2 : List (List Int) := [[0, 5], [1, 0]]

example : upgmaTieFree Dasym2 2 = true ∧ upgma Dasym2 2 = [⟨0, 1, 5, 1⟩] ∧
    (replayRun Dasym2 [(1, 0)] (upgmaInit 2)).map (·.rows) = some [⟨1, 0, 1, 1⟩] := by decide

/-- the replay theorem applies to `D4`: the replay naming every pair in the other order gives the model's rows -/
example : ((replayRun D4 [(1, 0), (3, 2), (5, 4)] (upgmaInit 4)).map
    (fun s => s.rows.map (fun m => (min m.left m.right, max m.left m.right, m.num, m.den)))) =
    some ((upgma D4 4).map (fun m => (min m.left m.right, max m.left m.right, m.num, m.den))) := by decide

end GambitV.C17
