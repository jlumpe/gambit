import GambitV.Lemmas.Schedule

/-!
# C13 — the concurrent signature calculation returns one signature per file, in file order

`Model/Schedule.lean` follows the executor branch of `calc_file_signatures`: one task per file,
`sigs = [None] * n`, and as the futures complete — in *some* order `σ`, a permutation of
`0..n-1` — `sigs[i] = future.result()`, where `result()` re-raises the worker's exception; then
`assert all(sig is not None for sig in sigs)`.  `calcSeq` is the branch without an executor.

Every theorem below is stated for an arbitrary completion order `σ`.  The numbers in the docstrings are the item numbers of
`notes/C12_C13_C19_statements.md` (a letter or a prime marks a theorem added beside an item).  Of the `collect_*` theorems
only `collect_ok` and `collect_eq_ok` speak of the loop `collect`; the others (`collect_any_order`, `collect_error`, …) are about the whole call `calcAll`.
-/
namespace GambitV.C13
open GambitV

/-! ### The executor branch against the sequential branch

Both branches are determined by `calcSeq`: if it succeeds so does the executor branch, with the same
list; if it raises so does the executor branch, with the exception of some failing file (which one
depends on `σ`).  Everything below follows from these two facts and the `mapM` lemmas. -/

section Branches
variable {ε α : Type} {n : Nat} {result : Nat → Except ε α} {σ : List Nat}

theorem calcAll_of_calcSeq_ok (hσ : σ.Perm (List.range n)) {l : List α} (h : calcSeq n result = .ok l) :
    calcAll n result σ = .ok (some l) := by
  obtain ⟨vs, hvs⟩ := mapM_except_ok_of_subset h (fun i hi => hσ.mem_iff.1 hi)
  rw [calcAll_eq n result σ hσ, hvs, map_okVal h]
  exact congrArg Except.ok (allSome_map_some l)

theorem calcAll_of_calcSeq_error (hσ : σ.Perm (List.range n)) {e : ε} (h : calcSeq n result = .error e) :
    ∃ e', calcAll n result σ = .error e' ∧ ∃ j, j < n ∧ result j = .error e' := by
  cases hm : σ.mapM result with
  | ok vs =>
    obtain ⟨l, hl⟩ := mapM_except_ok_of_subset hm (fun i hi => hσ.mem_iff.2 hi)
    rw [calcSeq, hl] at h; cases h
  | error e' =>
    obtain ⟨j, hj, hje⟩ := mapM_except_eq_error result σ e' hm
    refine ⟨e', ?_, j, List.mem_range.1 (hσ.mem_iff.1 hj), hje⟩
    rw [calcAll_eq n result σ hσ, hm]; rfl

theorem calcSeq_eq_ok {l : List α} (h : calcSeq n result = .ok l) :
    l.length = n ∧ ∀ i (hi : i < l.length), result i = .ok l[i] := by
  have hmap := (mapM_except_eq_ok_iff ..).1 h
  have hlen : l.length = n := by simpa using (congrArg List.length hmap).symm
  refine ⟨hlen, fun i hi => ?_⟩
  have := congrArg (fun t => t[i]?) hmap
  simpa [List.getElem?_range (hlen ▸ hi), List.getElem?_eq_getElem hi] using this

theorem calcSeq_of_calcAll_ok (hσ : σ.Perm (List.range n)) {o : Option (List α)} (h : calcAll n result σ = .ok o) :
    ∃ l, o = some l ∧ calcSeq n result = .ok l := by
  cases hs : calcSeq n result with
  | ok l =>
    rw [calcAll_of_calcSeq_ok hσ hs] at h
    cases h
    exact ⟨l, rfl, rfl⟩
  | error e =>
    obtain ⟨e', he', _⟩ := calcAll_of_calcSeq_error (σ := σ) hσ hs
    rw [he'] at h
    cases h

end Branches

/-- If every task succeeds, the loop ends with cell `i` holding task `i`'s result — for every
completion order. -/
theorem collect_ok {ε α : Type} (n : Nat) (result : Nat → Except ε α) (r : Nat → α)
    (hok : ∀ i, i < n → result i = .ok (r i)) (σ : List Nat) (hσ : σ.Perm (List.range n)) :
    collect n result σ = .ok ((List.range n).map (fun i => some (r i))) := by
  rw [collect_eq n result σ hσ,
    mapM_except_ok result r σ (fun i hi => hok i (List.mem_range.1 (hσ.mem_iff.1 hi)))]
  exact congrArg Except.ok (List.map_congr_left fun i hi =>
    okVal_eq_some_iff.2 (hok i (List.mem_range.1 hi)))

/-- The loop ends normally only when every file's task succeeded, and then cell `i` holds exactly
task `i`'s result. -/
theorem collect_eq_ok {ε α : Type} (n : Nat) (result : Nat → Except ε α) (σ : List Nat)
    (hσ : σ.Perm (List.range n)) (l' : List (Option α)) (h : collect n result σ = .ok l') :
    (∀ i, i < n → ∃ a, result i = .ok a) ∧ l' = (List.range n).map (okVal result) := by
  rw [collect_eq n result σ hσ] at h
  cases hm : σ.mapM result with
  | error e => rw [hm] at h; cases h
  | ok vs =>
    rw [hm] at h; cases h
    exact ⟨fun i hi => mapM_except_ok_mem hm (hσ.mem_iff.2 (List.mem_range.2 hi)), rfl⟩

/-! ### 1. Every completion order gives the same, file-ordered list -/

/-- 1. If every file's task succeeds, then for every completion order the call returns one
signature per file, in file order, each being the single-file result. -/
theorem collect_any_order {ε α : Type} (n : Nat) (result : Nat → Except ε α) (r : Nat → α)
    (hok : ∀ i, i < n → result i = .ok (r i)) (σ : List Nat) (hσ : σ.Perm (List.range n)) :
    calcAll n result σ = .ok (some ((List.range n).map r)) :=
  calcAll_of_calcSeq_ok hσ (mapM_except_ok result r _ fun i hi => hok i (List.mem_range.1 hi))

/-- 1b. In particular two completion orders cannot give different outputs. -/
theorem order_irrelevant {ε α : Type} (n : Nat) (result : Nat → Except ε α) (r : Nat → α)
    (hok : ∀ i, i < n → result i = .ok (r i)) (σ τ : List Nat) (hσ : σ.Perm (List.range n))
    (hτ : τ.Perm (List.range n)) : calcAll n result σ = calcAll n result τ := by
  rw [collect_any_order n result r hok σ hσ, collect_any_order n result r hok τ hτ]

/-! ### 2. A failing file fails the whole call -/

/-- 2b. Whatever exception leaves the call was raised by some file's task. -/
theorem collect_error_source {ε α : Type} (n : Nat) (result : Nat → Except ε α) (σ : List Nat)
    (hσ : σ.Perm (List.range n)) (e' : ε) (h : calcAll n result σ = .error e') :
    ∃ j, j < n ∧ result j = .error e' := by
  cases hs : calcSeq n result with
  | ok l => rw [calcAll_of_calcSeq_ok hσ hs] at h; cases h
  | error e =>
    obtain ⟨e'', he'', hsrc⟩ := calcAll_of_calcSeq_error (σ := σ) hσ hs
    rw [he''] at h
    cases h
    exact hsrc

/-- 4b (stated here because 2 follows from it). A failing file fails the sequential branch too, with a failing file's exception. -/
theorem calcSeq_error_strong {ε α : Type} (n : Nat) (result : Nat → Except ε α) (i : Nat)
    (hi : i < n) (e : ε) (he : result i = .error e) :
    ∃ e', calcSeq n result = .error e' ∧ ∃ j, j < n ∧ result j = .error e' := by
  cases hs : calcSeq n result with
  | error e' =>
    obtain ⟨j, hj, hje⟩ := mapM_except_eq_error result _ e' hs
    exact ⟨e', rfl, j, List.mem_range.1 hj, hje⟩
  | ok l =>
    obtain ⟨a, ha⟩ := mapM_except_ok_mem hs (List.mem_range.2 hi)
    rw [he] at ha; cases ha

theorem calcSeq_error {ε α : Type} (n : Nat) (result : Nat → Except ε α) (i : Nat) (hi : i < n)
    (e : ε) (he : result i = .error e) : ∃ e', calcSeq n result = .error e' := by
  obtain ⟨e', h, _⟩ := calcSeq_error_strong n result i hi e he
  exact ⟨e', h⟩

/-- 2 + 2b together: the call fails, with the exception of one of the failing files. -/
theorem collect_error_strong {ε α : Type} (n : Nat) (result : Nat → Except ε α) (σ : List Nat)
    (hσ : σ.Perm (List.range n)) (i : Nat) (hi : i < n) (e : ε) (he : result i = .error e) :
    ∃ e', calcAll n result σ = .error e' ∧ ∃ j, j < n ∧ result j = .error e' := by
  obtain ⟨e', h⟩ := calcSeq_error n result i hi e he
  exact calcAll_of_calcSeq_error hσ h

/-- 2. If any file's task fails, the call fails — for every completion order. -/
theorem collect_error {ε α : Type} (n : Nat) (result : Nat → Except ε α) (σ : List Nat)
    (hσ : σ.Perm (List.range n)) (i : Nat) (hi : i < n) (e : ε) (he : result i = .error e) :
    ∃ e', calcAll n result σ = .error e' := by
  obtain ⟨e', h, _⟩ := collect_error_strong n result σ hσ i hi e he
  exact ⟨e', h⟩

/-! ### 3. No partial list, no assertion failure -/

/-- 3. A returned list has one entry per file and entry `i` is file `i`'s own result (so every
file's task succeeded): there is no partially filled or misordered output.
(`i < l.length` is `i < n` by the first conjunct; stated this way so that `l[i]` typechecks.) -/
theorem no_partial_list {ε α : Type} (n : Nat) (result : Nat → Except ε α) (σ : List Nat)
    (hσ : σ.Perm (List.range n)) (l : List α) (h : calcAll n result σ = .ok (some l)) :
    l.length = n ∧ ∀ i (hi : i < l.length), result i = .ok l[i] := by
  obtain ⟨l', hl', hs⟩ := calcSeq_of_calcAll_ok hσ h
  cases hl'
  exact calcSeq_eq_ok hs

/-- 3, indexed by `i < n`. -/
theorem no_partial_list_get {ε α : Type} (n : Nat) (result : Nat → Except ε α) (σ : List Nat)
    (hσ : σ.Perm (List.range n)) (l : List α) (h : calcAll n result σ = .ok (some l)) (i : Nat)
    (hi : i < n) :
    result i = .ok (l[i]'(by rw [(no_partial_list n result σ hσ l h).1]; exact hi)) :=
  (no_partial_list n result σ hσ l h).2 i _

/-- 3b. With a permutation schedule the `assert all(sig is not None …)` never fires. -/
theorem never_assertion {ε α : Type} (n : Nat) (result : Nat → Except ε α) (σ : List Nat)
    (hσ : σ.Perm (List.range n)) : calcAll n result σ ≠ .ok none := by
  intro h
  obtain ⟨l, hl, _⟩ := calcSeq_of_calcAll_ok hσ h
  cases hl

/-- The two possible outcomes, for every completion order (the assertion never fires, 3b): all files succeeded and the full
ordered list is returned, or the call raises one of the files' exceptions. -/
theorem calcAll_cases {ε α : Type} (n : Nat) (result : Nat → Except ε α) (σ : List Nat)
    (hσ : σ.Perm (List.range n)) :
    (∃ l, calcAll n result σ = .ok (some l) ∧ l.length = n) ∨
      (∃ e' j, calcAll n result σ = .error e' ∧ j < n ∧ result j = .error e') := by
  cases hs : calcSeq n result with
  | ok l => exact Or.inl ⟨l, calcAll_of_calcSeq_ok hσ hs, (calcSeq_eq_ok hs).1⟩
  | error e =>
    obtain ⟨e', he', j, hj, hje⟩ := calcAll_of_calcSeq_error (σ := σ) hσ hs
    exact Or.inr ⟨e', j, he', hj, hje⟩

/-! ### 4. The sequential branch -/

/-- 4. Without an executor the same list is produced: under the hypothesis of 1, the sequential
branch returns the list that the executor branch returns for every completion order. -/
theorem seq_eq_concurrent {ε α : Type} (n : Nat) (result : Nat → Except ε α) (r : Nat → α)
    (hok : ∀ i, i < n → result i = .ok (r i)) : calcSeq n result = .ok ((List.range n).map r) :=
  mapM_except_ok result r (List.range n) (fun i hi => hok i (List.mem_range.1 hi))

/-- 4, as an equation between the two branches. -/
theorem seq_agrees_concurrent {ε α : Type} (n : Nat) (result : Nat → Except ε α) (r : Nat → α)
    (hok : ∀ i, i < n → result i = .ok (r i)) (σ : List Nat) (hσ : σ.Perm (List.range n)) :
    calcAll n result σ = (calcSeq n result).map some := by
  rw [seq_eq_concurrent n result r hok, collect_any_order n result r hok σ hσ]
  rfl

/-- 4c. Both branches fail together: the sequential branch raises iff the executor branch raises
(for any completion order). -/
theorem seq_fails_iff_concurrent_fails {ε α : Type} (n : Nat) (result : Nat → Except ε α)
    (σ : List Nat) (hσ : σ.Perm (List.range n)) :
    (∃ e', calcSeq n result = .error e') ↔ (∃ e', calcAll n result σ = .error e') := by
  constructor
  · rintro ⟨e', h⟩
    obtain ⟨e'', h', _⟩ := calcAll_of_calcSeq_error (σ := σ) hσ h
    exact ⟨e'', h'⟩
  · rintro ⟨e', h⟩
    obtain ⟨j, hj, hje⟩ := collect_error_source n result σ hσ e' h
    exact calcSeq_error n result j hj e' hje

/-! ### 5. Non-vacuity -/

section Examples

private def res3 : Nat → Except String Nat := fun i => .ok (10 * i + 7)
/-- file 1 fails -/
private def res3bad : Nat → Except String Nat := fun i => if i = 1 then .error "bad file" else .ok (10 * i + 7)
/-- files 0 and 2 fail, with different exceptions -/
private def res3bad2 : Nat → Except String Nat := fun i =>
  if i = 0 then .error "zero" else if i = 2 then .error "two" else .ok 5

private def isOkSome (x : Except String (Option (List Nat))) (l : List Nat) : Bool :=
  match x with
  | .ok (some l') => l' == l
  | _ => false

private def isErr {β : Type} (x : Except String β) (e : String) : Bool :=
  match x with
  | .error e' => e' == e
  | _ => false

example : [2, 0, 1].Perm (List.range 3) := by decide
example : [1, 2, 0].Perm (List.range 3) := by decide

-- two different completion orders, same file-ordered list (each stated through `isOkSome` and as an equation)
example : isOkSome (calcAll 3 res3 [2, 0, 1]) [7, 17, 27] = true := by decide
example : isOkSome (calcAll 3 res3 [1, 2, 0]) [7, 17, 27] = true := by decide
example : calcAll 3 res3 [2, 0, 1] = .ok (some [7, 17, 27]) := rfl
example : calcAll 3 res3 [1, 2, 0] = .ok (some [7, 17, 27]) := rfl
-- the intermediate list after the loop
example : collect 3 res3 [2, 0, 1] = .ok [some 7, some 17, some 27] := rfl
-- one failing file: the call fails in both orders
example : isErr (calcAll 3 res3bad [2, 0, 1]) "bad file" = true := by decide
example : isErr (calcAll 3 res3bad [1, 2, 0]) "bad file" = true := by decide
-- two failing files: which exception is raised depends on the completion order
example : isErr (calcAll 3 res3bad2 [2, 0, 1]) "two" = true := by decide
example : isErr (calcAll 3 res3bad2 [1, 0, 2]) "zero" = true := by decide
-- a schedule that is not a permutation (a lost future) would trip the assertion: the hypothesis
-- `hσ` of `never_assertion` is needed
example : calcAll 3 res3 [2, 0] = .ok none := rfl
-- sequential branch
example : calcSeq 3 res3 = .ok [7, 17, 27] := rfl
example : isErr (calcSeq 3 res3bad) "bad file" = true := by decide
example : isErr (calcSeq 3 res3bad2) "zero" = true := by decide

end Examples

end GambitV.C13
