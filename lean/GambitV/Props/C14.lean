import GambitV.Model.Params

/-!
# C14 — signatures built with different k-mer parameters are never compared silently

Decision logic stated outright: whenever a command proceeds (`.run u`), every pre-computed source and
the explicit options carry exactly the parameters `u` that are used for everything that is computed;
any disagreement is `.error` (non-zero exit status, nothing written).
-/
namespace GambitV.C14
open GambitV

theorem ite_eq_run_iff (p : Prop) [Decidable p] (d : Decision) (u : KSpec) :
    (if p then d else .error) = .run u ↔ p ∧ d = .run u := by
  by_cases hp : p <;> simp [hp]

theorem eq_error_of_not_run (d : Decision) (h : ∀ u, d ≠ .run u) : d = .error := by
  cases d with
  | error => rfl
  | run u => exact absurd rfl (h u)

/-- The decision table of `gambit dist` in one line: it proceeds with `u` exactly when every parameter
set that is present (options, query side, reference side) is `u`, and `u` is the default when none is. -/
theorem distDecision_eq_run_iff (explicit qsig rsig : Option KSpec) (dflt u : KSpec) :
    distDecision explicit qsig rsig dflt = .run u ↔
      (∀ e ∈ explicit, e = u) ∧ (∀ q ∈ qsig, q = u) ∧ (∀ r ∈ rsig, r = u) ∧
      (explicit = none → qsig = none → rsig = none → u = dflt) := by
  -- row by row: `simp` evaluates the table and the quantifiers over the sets present; what is left says that the sets agree
  unfold distDecision
  cases explicit with
  | none =>
    cases qsig with
    | none =>
      cases rsig with
      | none => simp [eq_comm]      -- nothing given: the default
      | some r => simp [eq_comm]    -- reference side alone
    | some q =>
      cases rsig with
      | none => simp [eq_comm]      -- query side alone
      | some r =>                                  -- both sides: they must agree
        simp [ite_eq_run_iff]
        exact ⟨fun ⟨h, hq⟩ => ⟨hq, h ▸ hq⟩, fun ⟨hq, hr⟩ => ⟨hq.trans hr.symm, hq⟩⟩
  | some e =>
    cases qsig with
    | none =>
      cases rsig with
      | none => simp [eq_comm]      -- options alone
      | some r =>                                  -- options and reference side
        simp [ite_eq_run_iff]
        exact ⟨fun ⟨h, he⟩ => ⟨he, h.trans he⟩, fun ⟨he, hr⟩ => ⟨hr.trans he.symm, he⟩⟩
    | some q =>
      cases rsig with
      | none =>                                    -- options and query side
        simp [ite_eq_run_iff]
        exact ⟨fun ⟨h, he⟩ => ⟨he, h.trans he⟩, fun ⟨he, hq⟩ => ⟨hq.trans he.symm, he⟩⟩
      | some r =>                                  -- all three
        simp [ite_eq_run_iff]
        exact ⟨fun ⟨hq, hr, he⟩ => ⟨he, hq.trans he, hr.trans he⟩,
          fun ⟨he, hq, hr⟩ => ⟨hq.trans he.symm, hr.trans he.symm, he⟩⟩

/-- If `gambit dist` proceeds with parameters `u`, then the query signatures, the reference
signatures (file or database) and the explicit `-k`/`-p` options — whichever are present — all
carry `u`. -/
theorem run_implies_same_params (explicit qsig rsig : Option KSpec) (dflt u : KSpec)
    (h : distDecision explicit qsig rsig dflt = .run u) :
    (∀ q, qsig = some q → q = u) ∧ (∀ r, rsig = some r → r = u) ∧ (∀ e, explicit = some e → e = u) :=
  have ⟨he, hq, hr, _⟩ := (distDecision_eq_run_iff ..).1 h
  ⟨hq, hr, he⟩

/-- Two pre-computed sides with different parameters: error, whatever else is given. -/
theorem mismatch_is_error (explicit : Option KSpec) (q r dflt : KSpec) (h : q ≠ r) :
    distDecision explicit (some q) (some r) dflt = .error :=
  eq_error_of_not_run _ fun _ hu =>
    have ⟨_, hq, hr, _⟩ := (distDecision_eq_run_iff ..).1 hu
    h ((hq q rfl).trans (hr r rfl).symm)

/-- Explicit options that disagree with pre-computed query signatures: error. -/
theorem explicit_vs_query_is_error (e q : KSpec) (rsig : Option KSpec) (dflt : KSpec) (h : q ≠ e) :
    distDecision (some e) (some q) rsig dflt = .error :=
  eq_error_of_not_run _ fun _ hu =>
    have ⟨he, hq, _, _⟩ := (distDecision_eq_run_iff ..).1 hu
    h ((hq q rfl).trans (he e rfl).symm)

/-- Explicit options that disagree with pre-computed reference signatures: error. -/
theorem explicit_vs_ref_is_error (e r : KSpec) (qsig : Option KSpec) (dflt : KSpec) (h : r ≠ e) :
    distDecision (some e) qsig (some r) dflt = .error :=
  eq_error_of_not_run _ fun _ hu =>
    have ⟨he, _, hr, _⟩ := (distDecision_eq_run_iff ..).1 hu
    h ((hr r rfl).trans (he e rfl).symm)

/-- When the parameters are not given explicitly they are taken from the pre-computed signatures
(query side first), else the default. -/
theorem defaults_source (qsig rsig : Option KSpec) (dflt u : KSpec)
    (h : distDecision none qsig rsig dflt = .run u) :
    u = (qsig.orElse (fun _ => rsig)).getD dflt := by
  obtain ⟨_, hq, hr, hd⟩ := (distDecision_eq_run_iff ..).1 h
  cases qsig with
  | some q => exact (hq q rfl).symm
  | none =>
    cases rsig with
    | some r => exact (hr r rfl).symm
    | none => exact hd rfl rfl rfl

/-- The decision is an error only for a genuine disagreement: consistent inputs always run. -/
theorem consistent_runs (u dflt : KSpec) (explicit qsig rsig : Option KSpec)
    (he : ∀ e, explicit = some e → e = u) (hq : ∀ q, qsig = some q → q = u) (hr : ∀ r, rsig = some r → r = u)
    (hsome : explicit.isSome ∨ qsig.isSome ∨ rsig.isSome) :
    distDecision explicit qsig rsig dflt = .run u :=
  (distDecision_eq_run_iff ..).2 ⟨he, hq, hr, fun h1 h2 h3 => by simp [h1, h2, h3] at hsome⟩

/-- `gambit query -s SIGFILE`: runs iff the file's parameters are the database's. -/
theorem querySig_run_iff (sig db u : KSpec) : querySigDecision sig db = .run u ↔ sig = db ∧ u = db := by
  rw [querySigDecision, ite_eq_run_iff, Decision.run.injEq]
  exact and_congr_right fun _ => eq_comm

theorem querySig_mismatch_is_error (sig db : KSpec) (h : sig ≠ db) : querySigDecision sig db = .error := by
  unfold querySigDecision; simp [h]

/-- `gambit signatures create`: `--db-params` together with explicit options is an error. -/
theorem create_exclusive (e : KSpec) (db : Option KSpec) (dflt : KSpec) :
    createDecision (some e) true db dflt = .error := by
  unfold createDecision; simp

/-- `gambit signatures create`, when it runs: the parameters come from the database (`--db-params`), the options, or the default — never a
mixture. -/
theorem create_sources (explicit : Option KSpec) (dbParams : Bool) (db : Option KSpec) (dflt u : KSpec)
    (h : createDecision explicit dbParams db dflt = .run u) :
    (dbParams = true → explicit = none ∧ db = some u) ∧
    (dbParams = false → u = explicit.getD dflt) := by
  cases dbParams with
  | false => cases explicit <;> cases h <;> exact ⟨nofun, fun _ => rfl⟩
  | true =>
    cases explicit <;> cases db <;> cases h
    exact ⟨fun _ => ⟨rfl, rfl⟩, nofun⟩

/-- option validation: both or neither; k ≥ 5; |prefix| ≥ 2; prefix over ACGT, upper-cased -/
theorem explicit_both_or_neither (k : Option Nat) (p : Option (List UInt8)) (s : KSpec)
    (h : explicitSpec k p = some (some s)) : k = some s.k ∧ 5 ≤ s.k ∧ 2 ≤ s.pre.length ∧
      ∀ b ∈ s.pre, b ∈ [65, 67, 71, 84] := by
  cases k with
  | none => cases p <;> cases h
  | some kk =>
    cases p with
    | none => cases h
    | some pp =>
      obtain ⟨hk, h⟩ := Option.ite_none_left_eq_some.1 h
      obtain ⟨hp, h⟩ := Option.ite_none_left_eq_some.1 h
      obtain ⟨hall, h⟩ := Option.ite_none_right_eq_some.1 h
      cases h
      refine ⟨rfl, Nat.le_of_not_lt hk, by rw [List.length_map]; exact Nat.le_of_not_lt hp, fun b hb => ?_⟩
      simpa [or_assoc] using List.all_eq_true.1 hall b hb

/-! ### Non-vacuity -/

def s6AT : KSpec := { k := 6, pre := [65, 84] }
def s7AT : KSpec := { k := 7, pre := [65, 84] }
def dflt : KSpec := { k := 11, pre := [65, 84, 71, 65, 67] }

example : distDecision none (some s6AT) (some s7AT) dflt = .error := by decide
example : distDecision none (some s6AT) (some s6AT) dflt = .run s6AT := by decide
example : distDecision (some s7AT) (some s6AT) none dflt = .error := by decide
example : distDecision (some s7AT) none none dflt = .run s7AT := by decide
example : distDecision none none none dflt = .run dflt := by decide
example : querySigDecision s6AT s7AT = .error := by decide
example : createDecision (some s6AT) true (some s7AT) dflt = .error := by decide
example : explicitSpec (some 6) (some [97, 116]) = some (some s6AT) := by decide
example : explicitSpec (some 4) (some [65, 84]) = none ∧ explicitSpec (some 6) none = none := by decide

end GambitV.C14
