import GambitV.Props.C12

/-!
# C19 — an interrupted write never leaves a loadable signature file

`writerTrace` is the sequence of storage-library calls made by `dump_signatures_hdf5`
(`h5.File(path, 'w')`, the attributes, the datasets, the chunk writes, and the `close` at the end of
the `with` block); `crashImage` is the file found on disk if the process dies after exactly `n` of
those calls, under snapshot semantics (the on-disk image becomes a valid HDF5 file holding its
objects only at `flush`/`close`).  Proved: until the final `close` has completed nothing at the path loads, and from then on
it loads as exactly the collection written (the round trip is C12's `read_write`).  The model does not tell a flushed, unclosed
file from an unflushed one (neither can be opened, see 6), so these theorems do not rest on the absence of `flush`;
`writerTrace_no_flush` is proved on its own and says that the writer gives no occasion for the case the model leaves out.
The numbers in the docstrings are the item numbers of `notes/C12_C13_C19_statements.md` (a letter or a prime marks a theorem added beside an item).
-/
namespace GambitV.C19
open GambitV

/-! ### 1–2. Shape of the writer's trace -/

/-- 1. The writer never calls `flush`. -/
theorem writerTrace_no_flush (fast : Bool) (nsigs : Nat) : WOp.flush ∉ writerTrace fast nsigs := by
  rw [writerTrace_eq, List.mem_append]
  rintro (h | h)
  · exact flush_not_mem_writerBody fast nsigs h
  · simp at h

/-- 2. `close` is the last call, and no earlier call is a `close`: it occurs exactly once. -/
theorem writerTrace_close_last (fast : Bool) (nsigs : Nat) :
    (writerTrace fast nsigs).getLast? = some .close ∧
      (∀ n, n < (writerTrace fast nsigs).length - 1 → (writerTrace fast nsigs)[n]? ≠ some .close) := by
  refine ⟨by rw [writerTrace_eq]; simp, ?_⟩
  intro n hn
  rw [writerTrace_length] at hn
  have hn' : n < (writerBody fast nsigs).length := by omega
  rw [writerTrace_eq, List.getElem?_append_left hn', List.getElem?_eq_getElem hn']
  intro h
  injection h with h
  exact close_not_mem_writerBody fast nsigs (h ▸ List.getElem_mem hn')

/-- 2b. Counted: exactly one `close`. -/
theorem writerTrace_count_close (fast : Bool) (nsigs : Nat) :
    (writerTrace fast nsigs).count .close = 1 := by
  rw [writerTrace_eq, List.count_append, List.count_eq_zero.2 (close_not_mem_writerBody fast nsigs)]
  rfl

/-- 2c. The first call creates (truncates) the file. -/
theorem writerTrace_head (fast : Bool) (nsigs : Nat) :
    (writerTrace fast nsigs).head? = some .createFile := rfl

/-- number of storage-library calls of a write -/
theorem writerTrace_length_eq (fast : Bool) (nsigs : Nat) :
    (writerTrace fast nsigs).length = if fast then 14 else 16 + nsigs := by
  cases fast with
  | true => rfl
  | false =>
    rw [writerTrace, if_neg Bool.false_ne_true, if_neg Bool.false_ne_true]
    simp only [List.length_append, List.length_map, List.length_range, List.length_cons, List.length_nil, attrNames]
    omega

/-! ### 3. A crash before the last call completes -/

/-- What a kill leaves, at every point of the write. -/
theorem crashImage_writerTrace (fast : Bool) (nsigs : Nat) (full : SigStore) (n : Nat) :
    crashImage (writerTrace fast nsigs) full n =
      if (writerTrace fast nsigs).length ≤ n then .hdf5 full
      else if n = 0 then .notHdf5 else .unopenable := by
  rw [writerTrace_length, writerTrace_eq]
  exact crashImage_append_close _ rfl (close_not_mem_writerBody fast nsigs) full n

/-- What is on disk after a crash before `close` completes: nothing if not even the file was
created, otherwise a file that the library cannot open. -/
theorem crashImage_before_close (fast : Bool) (nsigs : Nat) (full : SigStore) (n : Nat)
    (hn : n < (writerTrace fast nsigs).length) :
    crashImage (writerTrace fast nsigs) full n = if n = 0 then .notHdf5 else .unopenable := by
  rw [crashImage_writerTrace, if_neg (Nat.not_le.2 hn)]

/-- 3b (3 follows from it). After a crash before `close` completes the loader raises — the dedicated error if the file was never created,
another exception (the library cannot open the file) otherwise. -/
theorem crash_outcome (fast : Bool) (nsigs : Nat) (full : SigStore) (n : Nat)
    (hn : n < (writerTrace fast nsigs).length) :
    loadFile (crashImage (writerTrace fast nsigs) full n) =
      if n = 0 then .sigFileError else .otherError := by
  rw [crashImage_before_close fast nsigs full n hn]
  split <;> rfl

/-- 3. A writer killed before its last call completes never leaves a loadable file. -/
theorem crash_never_loads (fast : Bool) (nsigs : Nat) (full : SigStore) (n : Nat)
    (hn : n < (writerTrace fast nsigs).length) (c : SigCollection) :
    loadFile (crashImage (writerTrace fast nsigs) full n) ≠ .loaded c := by
  rw [crash_outcome fast nsigs full n hn]
  split <;> exact LoadOutcome.noConfusion

/-! ### 4–5. A completed write -/

theorem crashImage_complete (fast : Bool) (nsigs : Nat) (full : SigStore) (n : Nat)
    (hn : (writerTrace fast nsigs).length ≤ n) :
    crashImage (writerTrace fast nsigs) full n = .hdf5 full := by
  rw [crashImage_writerTrace, if_pos hn]

/-- 4. Once every call has completed, the file loads as exactly the collection written. -/
theorem complete_loads_exact (fast : Bool) (c : SigCollection) (n : Nat)
    (hn : (writerTrace fast c.sigs.length).length ≤ n) :
    loadFile (crashImage (writerTrace fast c.sigs.length) (writeSigs fast c) n) = .loaded c := by
  rw [crashImage_complete fast c.sigs.length _ n hn]
  exact C12.read_write fast c

/-- 5. If the file loads, the write ran to completion. -/
theorem loads_implies_complete (fast : Bool) (nsigs : Nat) (full : SigStore) (n : Nat)
    (c : SigCollection)
    (h : loadFile (crashImage (writerTrace fast nsigs) full n) = .loaded c) :
    (writerTrace fast nsigs).length ≤ n :=
  Nat.le_of_not_lt fun hn => crash_never_loads fast nsigs full n hn c h

/-- 4 + 5: a file that loads after a write of `c` holds `c` — never something else. -/
theorem loads_only_exact (fast : Bool) (c c' : SigCollection) (n : Nat)
    (h : loadFile (crashImage (writerTrace fast c.sigs.length) (writeSigs fast c) n) = .loaded c') :
    c' = c := by
  have hn := loads_implies_complete fast c.sigs.length _ n c' h
  rw [complete_loads_exact fast c n hn] at h
  injection h with h
  exact h.symm

/-! ### 5b. Death by an exception that unwinds the writer (Ctrl-C, SIGTERM handler, failing source)

The `with` block closes the file on the way out, so — unlike a kill — the calls made so far *are*
finalised.  `dump_signatures_hdf5` removes that file before re-raising (`unwindImage`); the statements are
then the same as for a kill.  What the removal prevents is the last example of this file (finding C19-F1). -/

/-- An interrupt before the last call completed leaves no file: the loader refuses with the dedicated error. -/
theorem unwind_outcome (fast : Bool) (nsigs : Nat) (full : SigStore) (n : Nat)
    (hn : n < (writerTrace fast nsigs).length) :
    loadFile (unwindImage (writerTrace fast nsigs) full n) = .sigFileError := by
  rw [unwindImage, if_neg (Nat.not_le.2 hn)]
  rfl

/-- An interrupt before the last call completed leaves nothing that loads. -/
theorem unwind_never_loads (fast : Bool) (nsigs : Nat) (full : SigStore) (n : Nat)
    (hn : n < (writerTrace fast nsigs).length) (c : SigCollection) :
    loadFile (unwindImage (writerTrace fast nsigs) full n) ≠ .loaded c := by
  rw [unwind_outcome fast nsigs full n hn]
  exact LoadOutcome.noConfusion

/-- Kill and interrupt give the same verdict at every point. -/
theorem unwind_eq_crash_verdict (fast : Bool) (c : SigCollection) (n : Nat) (c' : SigCollection) :
    loadFile (unwindImage (writerTrace fast c.sigs.length) (writeSigs fast c) n) = .loaded c' ↔
    loadFile (crashImage (writerTrace fast c.sigs.length) (writeSigs fast c) n) = .loaded c' := by
  by_cases hn : (writerTrace fast c.sigs.length).length ≤ n
  · rw [crashImage_complete fast _ _ n hn, unwindImage, if_pos hn]
  · have hlt := Nat.not_le.1 hn
    exact ⟨fun h => absurd h (unwind_never_loads fast _ _ n hlt c'),
      fun h => absurd h (crash_never_loads fast _ _ n hlt c')⟩

/-- A file that loads after an interrupted write of `c` holds `c` — never something else. -/
theorem unwind_loads_only_exact (fast : Bool) (c c' : SigCollection) (n : Nat)
    (h : loadFile (unwindImage (writerTrace fast c.sigs.length) (writeSigs fast c) n) = .loaded c') :
    c' = c :=
  loads_only_exact fast c c' n ((unwind_eq_crash_verdict fast c n c').1 h)

/-! ### 6. Contrast: a hypothetical writer that flushes early

In this conservative model a trace with an early `flush` still maps to `.unopenable` until `close`:
the model cannot exhibit a "flushed partial file" (a valid HDF5 file holding only some of the
attributes/datasets).  That behaviour is outside what is proved here; it is what the correspondence
run samples (killing a real writer).  `writerTrace_no_flush` is the reason it does not arise for
the writer as written. -/

section Examples

private def flushy : List WOp :=
  [.createFile, .setAttr "x", .flush, .createDataset "ids", .close]

private def c2 : SigCollection :=
  { k := 11, pre := [0, 3, 2], metaAttrs := [some "id", none, none, none, none, none],
    ids := ["a", "b"], sigs := [[3, 9, 20], []], dtypeBytes := 8 }

example : crashImage flushy (writeSigs true c2) 4 = .unopenable := rfl
example : crashImage flushy (writeSigs true c2) 2 = .unopenable := rfl
example : crashImage flushy (writeSigs true c2) 0 = .notHdf5 := rfl
example : crashImage flushy (writeSigs true c2) 5 = .hdf5 (writeSigs true c2) := rfl

/-! ### 7. Non-vacuity -/

example : writerTrace true 2 =
    [.createFile, .setAttr "gambit_signatures_version", .setAttr "kmerspec_k", .setAttr "kmerspec_prefix",
     .setAttr "id", .setAttr "name", .setAttr "id_attr", .setAttr "version", .setAttr "description",
     .setAttr "extra", .createDataset "ids", .createDataset "values", .createDataset "bounds", .close] := rfl

example : writerTrace false 2 =
    [.createFile, .setAttr "gambit_signatures_version", .setAttr "kmerspec_k", .setAttr "kmerspec_prefix",
     .setAttr "id", .setAttr "name", .setAttr "id_attr", .setAttr "version", .setAttr "description",
     .setAttr "extra", .createDataset "ids", .createDataset "bounds", .writeChunk 0, .writeChunk 1,
     .createDataset "values", .writeChunk 2, .writeChunk 3, .close] := rfl

example : (writerTrace true 2).length = 14 ∧ (writerTrace false 2).length = 18 := ⟨rfl, rfl⟩

-- crash after 5 calls: not loaded (the library cannot open the file)
example : loadFile (crashImage (writerTrace true 2) (writeSigs true c2) 5) = .otherError := rfl
example : loadFile (crashImage (writerTrace false 2) (writeSigs false c2) 5) = .otherError := rfl
-- crash during the very last call (`close` not completed)
example : loadFile (crashImage (writerTrace true 2) (writeSigs true c2) 13) = .otherError := rfl
example : loadFile (crashImage (writerTrace false 2) (writeSigs false c2) 17) = .otherError := rfl
-- crash before the file is created
example : loadFile (crashImage (writerTrace true 2) (writeSigs true c2) 0) = .sigFileError := rfl
-- completed writes
example : loadFile (crashImage (writerTrace true 2) (writeSigs true c2) 14) = .loaded c2 := rfl
example : loadFile (crashImage (writerTrace false 2) (writeSigs false c2) 18) = .loaded c2 := rfl

-- interrupted (exception) writes: nothing loads until the last call is done
example : loadFile (unwindImage (writerTrace false 2) (writeSigs false c2) 16) = .sigFileError := rfl
example : loadFile (unwindImage (writerTrace false 2) (writeSigs false c2) 18) = .loaded c2 := rfl

private def c3 : SigCollection :=
  { k := 11, pre := [0, 3, 2], metaAttrs := [some "id", none, none, none, none, none],
    ids := ["a", "b"], sigs := [[3, 9, 20], [5, 7]], dtypeBytes := 8 }

-- without the removal (`interruptedStoreSlow`: what `close` finalises when the per-signature writer is interrupted after one of two
-- signatures) the file loads, as a collection that is not the one being written (zero-filled tail)
example : ∃ c', loadFile (.hdf5 (interruptedStoreSlow c3 1)) = .loaded c' ∧ c' ≠ c3 ∧
    c'.sigs = [[3, 9, 20], [0, 0]] := by
  refine ⟨{ c3 with sigs := [[3, 9, 20], [0, 0]] }, ?_, ?_, ?_⟩ <;> decide

end Examples

end GambitV.C19
