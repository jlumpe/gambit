import GambitV.Props.C02
import Mathlib.Data.List.Sort

/-!
# C15 — the Jaccard distance is a metric on finite sets, and adding a common element shrinks it

`B1`–`B6` and `F5`–`F8` number the target statements of `notes/C02_C15_statements.md`, as in `Props/C02`.

Part A: the exact distance `|A ∆ B| / |A ∪ B|` (with `0/0 := 0`) on `Finset ℕ`, in `ℚ`.
Part B: the same facts for the binary32 value that is returned, first for sets, then for sorted coordinate lists.
-/
namespace GambitV.C15
open GambitV

/-- Exact Jaccard distance. -/
def dist (A B : Finset ℕ) : ℚ :=
  if (A ∪ B).card = 0 then 0 else ((symmDiff A B).card : ℚ) / ((A ∪ B).card : ℚ)

theorem symmDiff_subset_union (A B : Finset ℕ) : symmDiff A B ⊆ A ∪ B :=
  Finset.symmDiff_subset_union

theorem card_symmDiff_le (A B : Finset ℕ) : (symmDiff A B).card ≤ (A ∪ B).card :=
  Finset.card_le_card (symmDiff_subset_union A B)

/-- The same statement as `C02.card_symmDiff_add_inter`. -/
theorem card_symmDiff_add_inter (A B : Finset ℕ) :
    (symmDiff A B).card + (A ∩ B).card = (A ∪ B).card :=
  C02.card_symmDiff_add_inter A B

theorem card_symmDiff_eq_zero {A B : Finset ℕ} : (symmDiff A B).card = 0 ↔ A = B :=
  Finset.card_eq_zero.trans symmDiff_eq_bot

theorem card_symmDiff_pos {A B : Finset ℕ} (hne : A ≠ B) : 0 < (symmDiff A B).card :=
  Nat.pos_of_ne_zero (mt card_symmDiff_eq_zero.mp hne)

/-- The convention `0/0 := 0` of the definition is the division of `ℚ`, so no case needs to be set apart. -/
theorem dist_eq (A B : Finset ℕ) : dist A B = ((symmDiff A B).card : ℚ) / ((A ∪ B).card : ℚ) := by
  unfold dist
  split
  · next h => rw [h, Nat.cast_zero, div_zero]
  · rfl

theorem dist_of_pos {A B : Finset ℕ} (h : (A ∪ B).card ≠ 0) :
    dist A B = ((symmDiff A B).card : ℚ) / ((A ∪ B).card : ℚ) :=
  if_neg h

theorem dist_of_zero {A B : Finset ℕ} (h : (A ∪ B).card = 0) : dist A B = 0 := by
  rw [dist_eq, h, Nat.cast_zero, div_zero]

/-- B1. -/
theorem dist_mem_unit (A B : Finset ℕ) : 0 ≤ dist A B ∧ dist A B ≤ 1 := by
  rw [dist_eq]
  exact ⟨div_nonneg (Nat.cast_nonneg _) (Nat.cast_nonneg _),
    div_le_one_of_le₀ (by exact_mod_cast card_symmDiff_le A B) (Nat.cast_nonneg _)⟩

/-- B2. -/
theorem dist_eq_zero_iff (A B : Finset ℕ) : dist A B = 0 ↔ A = B := by
  rw [dist_eq, div_eq_zero_iff, Nat.cast_eq_zero, Nat.cast_eq_zero, ← card_symmDiff_eq_zero]
  have := card_symmDiff_le A B
  omega

/-- B3. -/
theorem dist_eq_one_iff (A B : Finset ℕ) :
    dist A B = 1 ↔ (Disjoint A B ∧ (A ∪ B).Nonempty) := by
  have hk := card_symmDiff_add_inter A B
  rw [dist_eq, Finset.disjoint_iff_inter_eq_empty, ← Finset.card_eq_zero, ← Finset.card_pos]
  by_cases h : (A ∪ B).card = 0
  · rw [h, Nat.cast_zero, div_zero]
    exact ⟨fun h01 => absurd h01 zero_ne_one, fun h' => by omega⟩
  · rw [div_eq_one_iff_eq (by exact_mod_cast h), Nat.cast_inj]
    omega

/-- B4. -/
theorem dist_symm (A B : Finset ℕ) : dist A B = dist B A := by
  unfold dist
  rw [symmDiff_comm A B, Finset.union_comm A B]

/-! ### Triangle inequality: `x/y ≤ (x+r)/(y+r)` with `r = |B \ (A ∪ C)|` puts all three distances over denominators
`≤ |A ∪ B ∪ C|`; the numerators then compare by counting -/

theorem card_symmDiff_add_sdiff_le (A B C : Finset ℕ) :
    (symmDiff A C).card + (B \ (A ∪ C)).card ≤ (symmDiff A B).card + (symmDiff B C).card := by
  rw [← Finset.card_union_of_disjoint
    (Finset.disjoint_sdiff.mono_left (symmDiff_subset_union A C))]
  refine (Finset.card_le_card (Finset.union_subset (symmDiff_triangle A B C) ?_)).trans
    (Finset.card_union_le _ _)
  -- what `B` has outside `A ∪ C` is in `B \ A ⊆ A ∆ B`
  exact ((Finset.sdiff_subset_sdiff (Finset.Subset.refl B) Finset.subset_union_left).trans
    Finset.symmDiff_subset_sdiff').trans Finset.subset_union_left

theorem card_union_add_sdiff (A B C : Finset ℕ) :
    (A ∪ C).card + (B \ (A ∪ C)).card = (A ∪ B ∪ C).card := by
  rw [Nat.add_comm, Finset.card_sdiff_add_card, Finset.union_left_comm, Finset.union_assoc]

theorem triangle_arith {x y r p q u v : ℚ} (_hx : 0 ≤ x) (hxy : x ≤ y) (hy : 0 < y) (hr : 0 ≤ r)
    (hp : 0 ≤ p) (hq : 0 ≤ q) (hu : 0 < u) (hv : 0 < v)
    (huU : u ≤ y + r) (hvU : v ≤ y + r) (hsum : x + r ≤ p + q) :
    x / y ≤ p / u + q / v := by
  have hU : 0 < y + r := add_pos_of_pos_of_nonneg hy hr
  have h1 : x / y ≤ (x + r) / (y + r) := by
    rw [div_le_div_iff₀ hy hU]
    linarith only [mul_le_mul_of_nonneg_left hxy hr]
  have h2 : (x + r) / (y + r) ≤ (p + q) / (y + r) := div_le_div_of_nonneg_right hsum hU.le
  have h3 : p / (y + r) ≤ p / u := div_le_div_of_nonneg_left hp hu huU
  have h4 : q / (y + r) ≤ q / v := div_le_div_of_nonneg_left hq hv hvU
  rw [add_div p q] at h2
  exact h1.trans (h2.trans (add_le_add h3 h4))

/-- B5. The Jaccard distance satisfies the triangle inequality. -/
theorem dist_triangle (A B C : Finset ℕ) : dist A C ≤ dist A B + dist B C := by
  by_cases hAC : (A ∪ C).card = 0
  · rw [dist_of_zero hAC]
    exact add_nonneg (dist_mem_unit A B).1 (dist_mem_unit B C).1
  by_cases hAB : (A ∪ B).card = 0
  · obtain ⟨rfl, rfl⟩ := Finset.union_eq_empty.mp (Finset.card_eq_zero.mp hAB)
    exact le_add_of_nonneg_left (dist_mem_unit _ _).1
  by_cases hBC : (B ∪ C).card = 0
  · obtain ⟨rfl, rfl⟩ := Finset.union_eq_empty.mp (Finset.card_eq_zero.mp hBC)
    exact le_add_of_nonneg_right (dist_mem_unit _ _).1
  rw [dist_eq, dist_eq, dist_eq]
  have k1 := card_symmDiff_add_sdiff_le A B C
  have k2 := card_union_add_sdiff A B C
  have k3 : (A ∪ B).card ≤ (A ∪ B ∪ C).card :=
    Finset.card_le_card Finset.subset_union_left
  have k4 : (B ∪ C).card ≤ (A ∪ B ∪ C).card :=
    Finset.card_le_card (Finset.union_assoc A B C ▸ Finset.subset_union_right)
  apply triangle_arith (r := ((B \ (A ∪ C)).card : ℚ))
  · exact Nat.cast_nonneg _
  · exact_mod_cast card_symmDiff_le A C
  · exact_mod_cast Nat.pos_of_ne_zero hAC
  · exact Nat.cast_nonneg _
  · exact Nat.cast_nonneg _
  · exact Nat.cast_nonneg _
  · exact_mod_cast Nat.pos_of_ne_zero hAB
  · exact_mod_cast Nat.pos_of_ne_zero hBC
  · exact_mod_cast (by omega : (A ∪ B).card ≤ (A ∪ C).card + (B \ (A ∪ C)).card)
  · exact_mod_cast (by omega : (B ∪ C).card ≤ (A ∪ C).card + (B \ (A ∪ C)).card)
  · exact_mod_cast k1

/-! ### Adding a common element: `|A ∆ B|` stays, `|A ∪ B|` grows by one -/

theorem symmDiff_insert_insert {x : ℕ} {A B : Finset ℕ} (hxA : x ∉ A) (hxB : x ∉ B) :
    symmDiff (insert x A) (insert x B) = symmDiff A B := by
  rw [Finset.symmDiff_def, Finset.symmDiff_def, Finset.insert_sdiff_insert,
    Finset.insert_sdiff_insert, Finset.sdiff_insert_of_notMem hxA, Finset.sdiff_insert_of_notMem hxB]

theorem union_insert_insert (x : ℕ) (A B : Finset ℕ) :
    insert x A ∪ insert x B = insert x (A ∪ B) :=
  (Finset.insert_union_distrib x A B).symm

theorem card_union_insert_insert {x : ℕ} {A B : Finset ℕ} (hxA : x ∉ A) (hxB : x ∉ B) :
    (insert x A ∪ insert x B).card = (A ∪ B).card + 1 := by
  rw [union_insert_insert, Finset.card_insert_of_notMem (by simp [hxA, hxB])]

/-- B6. Adding a common new element strictly decreases the distance of two different sets. -/
theorem dist_add_common_lt {x : ℕ} {A B : Finset ℕ} (hxA : x ∉ A) (hxB : x ∉ B) (hne : A ≠ B) :
    dist (insert x A) (insert x B) < dist A B := by
  have hs := card_symmDiff_pos hne
  have hu := hs.trans_le (card_symmDiff_le A B)
  rw [dist_eq, dist_eq, symmDiff_insert_insert hxA hxB, card_union_insert_insert hxA hxB,
    Nat.cast_succ]
  exact div_lt_div_of_pos_left (by exact_mod_cast hs) (by exact_mod_cast hu) (lt_add_one _)

theorem dist_add_common_eq (x : ℕ) (A : Finset ℕ) : dist (insert x A) (insert x A) = 0 :=
  (dist_eq_zero_iff _ _).mpr rfl

/-! ## Part B: the same facts for the binary32 value actually returned

Each follows from its exact counterpart through one fact about rounding a ratio `n/u` with `n ≤ u < 2^24`. -/

/-- Specification bits for two finite sets. -/
def specBits (A B : Finset ℕ) : UInt32 :=
  jaccardSpecBits (symmDiff A B).card (A ∪ B).card

/-- F5 restated: the kernel returns `specBits` of the two coordinate sets. -/
theorem jaccardBits_eq_specBits {a b : List ℕ} (ha : a.Pairwise (· < ·)) (hb : b.Pairwise (· < ·))
    (hu : unionCount a b < 2 ^ 24) : jaccardBits a b = specBits a.toFinset b.toFinset :=
  C02.jaccard_correctly_rounded ha hb hu

theorem specBits_eq (A B : Finset ℕ) :
    specBits A B = F32.roundRat (symmDiff A B).card (A ∪ B).card :=
  C02.jaccardSpecBits_eq _ _

theorem specBits_of_zero {A B : Finset ℕ} (h : (A ∪ B).card = 0) : specBits A B = 0 := by
  rw [specBits_eq, h, F32.roundRat_zero_right]

theorem specBits_of_pos {A B : Finset ℕ} (h : (A ∪ B).card ≠ 0) :
    specBits A B = F32.roundRat (symmDiff A B).card (A ∪ B).card :=
  if_neg h

/-- F6. The returned bits are `+0.0` exactly for equal sets. -/
theorem specBits_zero_iff (A B : Finset ℕ) (hu : (A ∪ B).card < 2 ^ 24) :
    specBits A B = 0 ↔ A = B := by
  rw [specBits_eq, F32.roundRat_eq_zero_iff_div ((card_symmDiff_le A B).trans_lt hu) hu, ← dist_eq,
    dist_eq_zero_iff]

/-- F6. The returned bits are `1.0` exactly for disjoint sets that are not both empty. -/
theorem specBits_one_iff (A B : Finset ℕ) (hu : (A ∪ B).card < 2 ^ 24) :
    specBits A B = F32.oneBits ↔ (Disjoint A B ∧ (A ∪ B).Nonempty) := by
  rw [specBits_eq, F32.roundRat_eq_one_iff_div (card_symmDiff_le A B) hu, ← dist_eq,
    dist_eq_one_iff]

/-- F7. The returned value is within `2^-25` of the exact distance. -/
theorem specBits_err (A B : Finset ℕ) (hu : (A ∪ B).card < 2 ^ 24) :
    |F32.val (specBits A B) - dist A B| ≤ 1 / 2 ^ 25 := by
  rw [specBits_eq, dist_eq]
  exact F32.roundRat_err_unit' (card_symmDiff_le A B) hu

/-- The returned value lies in `[0, 1]`. -/
theorem specBits_val_mem_unit (A B : Finset ℕ) (hu : (A ∪ B).card < 2 ^ 24) :
    0 ≤ F32.val (specBits A B) ∧ F32.val (specBits A B) ≤ 1 := by
  rw [specBits_eq]
  exact F32.val_roundRat_mem_unit (card_symmDiff_le A B) hu

/-- F7 (sets). Triangle inequality for the rounded values, up to three rounding errors. -/
theorem specBits_triangle (A B C : Finset ℕ) (hAC : (A ∪ C).card < 2 ^ 24)
    (hAB : (A ∪ B).card < 2 ^ 24) (hBC : (B ∪ C).card < 2 ^ 24) :
    F32.val (specBits A C) ≤ F32.val (specBits A B) + F32.val (specBits B C) + 3 / 2 ^ 25 := by
  have e1 := (abs_le.mp (specBits_err A C hAC)).2
  have e2 := (abs_le.mp (specBits_err A B hAB)).1
  have e3 := (abs_le.mp (specBits_err B C hBC)).1
  have ht := dist_triangle A B C
  linarith only [e1, e2, e3, ht]

/-- F8 (sets). Adding a common new element strictly decreases the returned value. -/
theorem specBits_add_common_lt {x : ℕ} {A B : Finset ℕ} (hxA : x ∉ A) (hxB : x ∉ B)
    (hne : A ≠ B) (hu : (A ∪ B).card + 1 < 2 ^ 23) :
    F32.val (specBits (insert x A) (insert x B)) < F32.val (specBits A B) := by
  rw [specBits_eq, specBits_eq, symmDiff_insert_insert hxA hxB, card_union_insert_insert hxA hxB]
  exact F32.roundRat_succ_den_lt (card_symmDiff_pos hne) (card_symmDiff_le A B) hu

/-! ### The same statements for the kernel model on sorted coordinate lists -/

theorem toFinset_eq_iff_of_sorted {a b : List ℕ} (ha : a.Pairwise (· < ·))
    (hb : b.Pairwise (· < ·)) : a.toFinset = b.toFinset ↔ a = b := by
  constructor
  · intro h
    apply List.Pairwise.eq_of_mem_iff ha hb
    intro x
    rw [← List.mem_toFinset, ← List.mem_toFinset, h]
  · intro h; rw [h]

theorem card_union_lt {a b : List ℕ} (ha : a.Pairwise (· < ·)) (hb : b.Pairwise (· < ·)) {k : ℕ}
    (hu : unionCount a b < k) : (a.toFinset ∪ b.toFinset).card < k :=
  C02.unionCount_eq_card ha hb ▸ hu

/-- F6. `c_jaccarddist` returns `+0.0` exactly when the two signatures are equal. -/
theorem bits_zero_iff {a b : List ℕ} (ha : a.Pairwise (· < ·)) (hb : b.Pairwise (· < ·))
    (hu : unionCount a b < 2 ^ 24) : jaccardBits a b = 0 ↔ a = b := by
  rw [jaccardBits_eq_specBits ha hb hu, specBits_zero_iff _ _ (card_union_lt ha hb hu),
    toFinset_eq_iff_of_sorted ha hb]

/-- F6. `c_jaccarddist` returns `1.0` exactly when the signatures share no element and are not
both empty. -/
theorem bits_one_iff {a b : List ℕ} (ha : a.Pairwise (· < ·)) (hb : b.Pairwise (· < ·))
    (hu : unionCount a b < 2 ^ 24) :
    jaccardBits a b = F32.oneBits ↔ ((∀ x, x ∈ a → x ∉ b) ∧ (a ≠ [] ∨ b ≠ [])) := by
  rw [jaccardBits_eq_specBits ha hb hu, specBits_one_iff _ _ (card_union_lt ha hb hu),
    Finset.disjoint_left, Finset.nonempty_iff_ne_empty, Ne, Finset.union_eq_empty,
    List.toFinset_eq_empty_iff, List.toFinset_eq_empty_iff, not_and_or]
  simp only [List.mem_toFinset]

/-- F7. The value returned by the kernel is within `2^-25` of the exact Jaccard distance. -/
theorem bits_err {a b : List ℕ} (ha : a.Pairwise (· < ·)) (hb : b.Pairwise (· < ·))
    (hu : unionCount a b < 2 ^ 24) :
    |F32.val (jaccardBits a b) - dist a.toFinset b.toFinset| ≤ 1 / 2 ^ 25 := by
  rw [jaccardBits_eq_specBits ha hb hu]
  exact specBits_err _ _ (card_union_lt ha hb hu)

/-- F7 (sharp form): the triangle inequality holds up to three rounding errors. -/
theorem triangle_f32_sharp {a b c : List ℕ} (ha : a.Pairwise (· < ·)) (hb : b.Pairwise (· < ·))
    (hc : c.Pairwise (· < ·)) (hac : unionCount a c < 2 ^ 24) (hab : unionCount a b < 2 ^ 24)
    (hbc : unionCount b c < 2 ^ 24) :
    F32.val (jaccardBits a c) ≤ F32.val (jaccardBits a b) + F32.val (jaccardBits b c) + 3 / 2 ^ 25 := by
  rw [jaccardBits_eq_specBits ha hc hac, jaccardBits_eq_specBits ha hb hab,
    jaccardBits_eq_specBits hb hc hbc]
  exact specBits_triangle _ _ _ (card_union_lt ha hc hac) (card_union_lt ha hb hab)
    (card_union_lt hb hc hbc)

/-- F7. Triangle inequality of the single-precision distances up to `2^-22`. -/
theorem triangle_f32 {a b c : List ℕ} (ha : a.Pairwise (· < ·)) (hb : b.Pairwise (· < ·))
    (hc : c.Pairwise (· < ·)) (hac : unionCount a c < 2 ^ 24) (hab : unionCount a b < 2 ^ 24)
    (hbc : unionCount b c < 2 ^ 24) :
    F32.val (jaccardBits a c) ≤ F32.val (jaccardBits a b) + F32.val (jaccardBits b c) + 1 / 2 ^ 22 :=
  (triangle_f32_sharp ha hb hc hac hab hbc).trans (add_le_add le_rfl (by norm_num))

/-- F8. Adding one common new coordinate to both signatures strictly decreases the returned
single-precision distance (unions below `2^23`). `a'`, `b'` are the sorted arrays of
`insert x A`, `insert x B`. -/
theorem add_common_strict_f32 {x : ℕ} {a b a' b' : List ℕ}
    (ha : a.Pairwise (· < ·)) (hb : b.Pairwise (· < ·))
    (ha' : a'.Pairwise (· < ·)) (hb' : b'.Pairwise (· < ·))
    (hxa : x ∉ a) (hxb : x ∉ b) (hne : a ≠ b)
    (hA : a'.toFinset = insert x a.toFinset) (hB : b'.toFinset = insert x b.toFinset)
    (hu : unionCount a b + 1 < 2 ^ 23) :
    F32.val (jaccardBits a' b') < F32.val (jaccardBits a b) := by
  have hxA : x ∉ a.toFinset := by simpa using hxa
  have hxB : x ∉ b.toFinset := by simpa using hxb
  have hcard' : unionCount a' b' = unionCount a b + 1 := by
    rw [C02.unionCount_eq_card ha' hb', hA, hB, card_union_insert_insert hxA hxB,
      C02.unionCount_eq_card ha hb]
  rw [jaccardBits_eq_specBits ha hb (by omega), jaccardBits_eq_specBits ha' hb' (by omega), hA, hB]
  exact specBits_add_common_lt hxA hxB (mt (toFinset_eq_iff_of_sorted ha hb).mp hne)
    (C02.unionCount_eq_card ha hb ▸ hu)

/-! ### Non-vacuity -/

example : F32.val (jaccardBits [1, 2, 3] [2, 3, 4]) = 1 / 2 := by
  have h : jaccardBits [1, 2, 3] [2, 3, 4] = 0x3F000000 := by decide +kernel
  have hd : F32.decode 0x3F000000 = some (2 ^ 23, -24) := by decide
  rw [h, F32.val_of_decode hd]; norm_num

example : jaccardBits [1, 2] [3] = F32.oneBits := by decide +kernel
example : jaccardBits [1, 2] [1, 2] = 0 := by decide +kernel
-- [1,2] vs [1,3]: 2/3;  with the common element 5 added: 2/4
example : jaccardBits [1, 2] [1, 3] = 0x3F2AAAAB ∧ jaccardBits [1, 2, 5] [1, 3, 5] = 0x3F000000 := by
  constructor <;> decide +kernel

example : dist {1, 2, 3} {2, 3, 4} = 1 / 2 := by
  have h1 : (({1, 2, 3} : Finset ℕ) ∪ {2, 3, 4}).card = 4 := by decide
  have h2 : (symmDiff ({1, 2, 3} : Finset ℕ) {2, 3, 4}).card = 2 := by decide
  rw [dist_of_pos (by omega), h1, h2]; norm_num

example : dist {1} {2} = 1 := (dist_eq_one_iff _ _).mpr ⟨by decide, by decide⟩

-- the hypotheses of the list-level theorems are jointly satisfiable
example : F32.val (jaccardBits [1, 2, 5] [1, 3, 5]) < F32.val (jaccardBits [1, 2] [1, 3]) :=
  add_common_strict_f32 (x := 5) (by decide) (by decide) (by decide) (by decide) (by decide)
    (by decide) (by decide) (by decide) (by decide) (by decide +kernel)

example : F32.val (jaccardBits [1, 2] [3, 4]) ≤
    F32.val (jaccardBits [1, 2] [2, 3]) + F32.val (jaccardBits [2, 3] [3, 4]) + 1 / 2 ^ 22 :=
  triangle_f32 (by decide) (by decide) (by decide) (by decide +kernel) (by decide +kernel)
    (by decide +kernel)

end GambitV.C15
