import GambitV.Model.Session

/-!
# C18 — the read-only session never changes the stored data

`ReadOnlySession` (`stepRO`): `flush` is a no-op, `commit` raises.  Over any finite history of
operations the durable rows are unchanged, nothing is ever flushed into a transaction, and every
query sees exactly the durable rows.  For contrast the ordinary session (`stepRW`) does change the
durable rows on an explicit history.  The read-side commands never open a database file for writing.
The numbers in the docstrings are the item numbers of `notes/C06_C08_C18_statements.md` (a letter or a prime marks a theorem added beside an item).
-/
namespace GambitV.C18
open GambitV

theorem runOps_nil (step : Sess → SOp → Sess × SOut) (s : Sess) : runOps step s [] = (s, []) := rfl

/-- Prepending an output to the accumulated list commutes with every step of the fold that `runOps` is. -/
theorem runOps_cons (step : Sess → SOp → Sess × SOut) (s : Sess) (op : SOp) (ops : List SOp) :
    runOps step s (op :: ops) =
      ((runOps step (step s op).1 ops).1, (step s op).2 :: (runOps step (step s op).1 ops).2) := by
  refine List.foldl_hom (fun a => (a.1, (step s op).2 :: a.2)) (init := ((step s op).1, [])) ?_
  intros; rfl

/-- 5. One output per operation. -/
theorem outputs_length (step : Sess → SOp → Sess × SOut) (s : Sess) (ops : List SOp) :
    (runOps step s ops).2.length = ops.length := by
  induction ops generalizing s with
  | nil => rfl
  | cons op ops ih => rw [runOps_cons]; simp [ih]

theorem stepRO_durable (s : Sess) (op : SOp) : (stepRO s op).1.durable = s.durable := by
  cases op <;> rfl

/-- raw SQL statements are the only way anything enters the connection's transaction -/
def isRawSql : SOp → Bool
  | .rawSql _ => true
  | _ => false

theorem stepRO_txn (s : Sess) (op : SOp) (hop : isRawSql op = false) (h : s.txn = []) : (stepRO s op).1.txn = [] := by
  cases op with
  | rawSql c => cases hop
  | beginBlock | rollback | close => rfl
  | _ => exact h

/-- 3a. `commit` raises and changes nothing. -/
theorem commit_raises (s : Sess) : stepRO s .commit = (s, .raised) := rfl

/-- 3b. `flush` is a no-op: pending changes stay pending. -/
theorem flush_noop (s : Sess) : stepRO s .flush = (s, .ok) := rfl

/-- 1. No finite history of operations on the read-only session changes the stored data. -/
theorem durable_invariant (ops : List SOp) (s : Sess) : (runOps stepRO s ops).1.durable = s.durable := by
  induction ops generalizing s with
  | nil => rfl
  | cons op ops ih =>
    rw [runOps_cons]
    dsimp only
    rw [ih, stepRO_durable]

/-- 2. Nothing is ever flushed into a transaction (the unit of work never reaches the connection). -/
theorem txn_stays_empty (ops : List SOp) (s : Sess) (hraw : ∀ op ∈ ops, isRawSql op = false) (h : s.txn = []) :
    (runOps stepRO s ops).1.txn = [] := by
  induction ops generalizing s with
  | nil => exact h
  | cons op ops ih =>
    rw [runOps_cons]
    exact ih _ (fun o ho => hraw o (List.mem_cons_of_mem _ ho)) (stepRO_txn s op (hraw op (List.mem_cons_self ..)) h)

/-- 2b. Even statements executed directly on the connection (`rawSql`) are never made durable: they sit in the open
transaction, `commit` refuses, and `rollback` / `close` discard them.  (`durable_invariant` above holds for *every* history,
raw SQL included.) -/
theorem raw_sql_discarded (s : Sess) (c : Change) :
    (runOps stepRO s [.rawSql c, .commit, .close]).1 = { durable := s.durable, txn := [], pending := [] } ∧
    (runOps stepRO s [.rawSql c, .commit, .close]).2 = [.ok, .raised, .ok] :=
  ⟨rfl, rfl⟩

/-- 4a. A query sees exactly the durable rows (pending changes are not visible: autoflush is a no-op). -/
theorem query_sees_durable (s : Sess) (h : s.txn = []) : (stepRO s .query).2 = .rows s.durable.length := by
  rw [stepRO, h]; rfl

/-- One step from an empty-transaction state can only report the durable row count. -/
theorem stepRO_rows (s : Sess) (op : SOp) (h : s.txn = []) (n : Nat) (hn : (stepRO s op).2 = .rows n) :
    n = s.durable.length := by
  cases op with
  | query =>
    rw [query_sees_durable s h] at hn
    cases hn
    rfl
  | _ => cases hn

/-- 4b. Along any history from a state with an empty transaction, every `.rows n` output has
`n = s.durable.length`. -/
theorem history_rows (ops : List SOp) (s : Sess) (hraw : ∀ op ∈ ops, isRawSql op = false) (h : s.txn = []) :
    ∀ n, SOut.rows n ∈ (runOps stepRO s ops).2 → n = s.durable.length := by
  induction ops generalizing s with
  | nil => intro n hn; simp [runOps_nil] at hn
  | cons op ops ih =>
    intro n hn
    rw [runOps_cons] at hn
    rcases List.mem_cons.1 hn with e | hn
    · exact stepRO_rows s op h n e.symm
    · have := ih _ (fun o ho => hraw o (List.mem_cons_of_mem _ ho)) (stepRO_txn s op (hraw op (List.mem_cons_self ..)) h) n hn
      rwa [stepRO_durable] at this

/-- The pending changes are exactly the `change` operations since the last rollback/close/refused transaction commit — in
particular after a history with neither, all changes are still pending (none was applied). -/
theorem pending_accumulates (ops : List SOp) (s : Sess)
    (hno : ∀ op ∈ ops, op ≠ .rollback ∧ op ≠ .close ∧ op ≠ .beginBlock) :
    (runOps stepRO s ops).1.pending =
      s.pending ++ ops.filterMap (fun op => match op with | .change c => some c | _ => none) := by
  induction ops generalizing s with
  | nil => simp [runOps_nil]
  | cons op ops ih =>
    rw [runOps_cons]
    dsimp only
    rw [ih _ (fun o ho => hno o (List.mem_cons_of_mem _ ho))]
    obtain ⟨h1, h2, h3⟩ := hno op (List.mem_cons_self ..)
    cases op with
    | change c => exact List.append_assoc ..
    | rollback => exact absurd rfl h1
    | close => exact absurd rfl h2
    | beginBlock => exact absurd rfl h3
    | _ => rfl

/-- A commit through the transaction object (`get_transaction().commit()`) is refused like `commit()`:
nothing is stored and the session is left as it was. -/
theorem txn_commit_raises (s : Sess) : stepRO s .txnCommit = (s, .raised) := rfl

/-- Leaving a `with session.begin():` block is refused too and leaves nothing behind: stored rows
unchanged, the block's transaction and the pending changes discarded. -/
theorem begin_block_raises (s : Sess) :
    (stepRO s .beginBlock).2 = .raised ∧ (stepRO s .beginBlock).1.durable = s.durable ∧
    (stepRO s .beginBlock).1.txn = [] ∧ (stepRO s .beginBlock).1.pending = [] :=
  ⟨rfl, rfl, rfl, rfl⟩

/-- … in contrast to the ordinary session, where it stores the pending and flushed changes. -/
theorem rw_txn_commit_stores :
    (stepRW { durable := [1, 2], txn := [.add 8], pending := [.add 7] } .txnCommit).1.durable = [1, 2, 8, 7] := by
  decide

/-! ### 6. Contrast: the ordinary session does change the stored data -/

/-- On the history `add 7; flush; commit` the ordinary session stores the row; the read-only session
does not (its `commit` raises). -/
theorem rw_changes_durable :
    let s : Sess := { durable := [1, 2], txn := [], pending := [] }
    let ops : List SOp := [.change (.add 7), .flush, .commit, .query]
    (runOps stepRW s ops).1.durable = [1, 2, 7] ∧
    (runOps stepRW s ops).2 = [.ok, .ok, .ok, .rows 3] ∧
    (runOps stepRO s ops).1.durable = [1, 2] ∧
    (runOps stepRO s ops).2 = [.ok, .ok, .raised, .rows 2] := by
  decide

/-! ### 7. File-open modes -/

/-- No read-side command opens either database file for writing. -/
theorem dbOpens_never_write (c : Cmd) : (dbOpens c).1 ≠ some .write ∧ (dbOpens c).2 ≠ some .write := by
  cases c <;> decide

/-! ### Non-vacuity -/

-- a history with a delete, a flush, a commit attempt, a query and a close: durable rows untouched,
-- the query still sees both rows, the pending changes are discarded by `close`.
example : runOps stepRO { durable := [4, 5], txn := [], pending := [] }
    [.change (.del 4), .flush, .commit, .query, .close] =
    ({ durable := [4, 5], txn := [], pending := [] }, [.ok, .ok, .raised, .rows 2, .ok]) := by decide

-- the same history on the ordinary session deletes the row
example : (runOps stepRW { durable := [4, 5], txn := [], pending := [] }
    [.change (.del 4), .flush, .commit, .query, .close]).1.durable = [5] := by decide

example : dbOpens .query = (some .read, some .read) := rfl

end GambitV.C18
