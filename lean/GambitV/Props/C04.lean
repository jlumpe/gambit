import GambitV.Model.RefDb
import GambitV.Props.C05

/-!
# C04 — each reference genome is paired with the signature stored under its own ID

`G` = ID of every genome of the genome set (in genome-set order), `S` = IDs stored in the signature
file (in file order).  `matchIds G S` is what `genomes_by_id_subset` returns: pairs
(genome index, signature position).  From `loadDb` on, `G : List (Option Nat)`: `none` is a genome without a value of the ID attribute.
-/
namespace GambitV.C04
open GambitV

theorem mem_matchIds {G S : List Nat} {g p : Nat} :
    (g, p) ∈ matchIds G S ↔ p < S.length ∧ ∃ id, S[p]? = some id ∧ G.idxOf? id = some g := by
  unfold matchIds
  simp only [List.mem_filterMap, List.mem_range]
  constructor
  · rintro ⟨q, hq, h⟩
    split at h
    · rename_i id hs
      simp only [Option.map_eq_some_iff, Prod.mk.injEq] at h
      obtain ⟨g', hg', rfl, rfl⟩ := h
      exact ⟨hq, id, hs, hg'⟩
    · cases h
  · rintro ⟨hp, id, hs, hg⟩
    exact ⟨p, hp, by simp [hs, hg]⟩

/-- Pairing: the signature at the recorded position is stored under exactly the genome's ID. -/
theorem pairing {G S : List Nat} {g p : Nat} (h : (g, p) ∈ matchIds G S) :
    ∃ id, S[p]? = some id ∧ G[g]? = some id := by
  obtain ⟨_, id, hs, hg⟩ := mem_matchIds.1 h
  refine ⟨id, hs, ?_⟩
  rw [List.idxOf?_eq_some_iff] at hg
  obtain ⟨hlt, hget, _⟩ := hg
  rw [List.getElem?_eq_getElem hlt, hget]

/-- Signature positions come out strictly increasing (the documented "sorted order"), so in
particular no position is used twice. -/
theorem positions_increasing (G S : List Nat) :
    ((matchIds G S).map (·.2)).Pairwise (· < ·) := by
  unfold matchIds
  rw [List.pairwise_map, List.pairwise_filterMap]
  refine List.pairwise_lt_range.imp ?_
  intro p q hpq b hb b' hb'
  split at hb
  · split at hb'
    · obtain ⟨g, -, rfl⟩ := Option.map_eq_some_iff.1 hb
      obtain ⟨g', -, rfl⟩ := Option.map_eq_some_iff.1 hb'
      exact hpq
    · cases hb'
  · cases hb

/-- Every ID of the file that belongs to a genome is used: unrelated (padding) signatures are
skipped and nothing else is. -/
theorem uses_exactly_matching (G S : List Nat) (p : Nat) :
    (∃ g, (g, p) ∈ matchIds G S) ↔ ∃ id, S[p]? = some id ∧ id ∈ G := by
  constructor
  · rintro ⟨g, h⟩
    obtain ⟨id, hs, hg⟩ := pairing h
    exact ⟨id, hs, List.mem_of_getElem? hg⟩
  · rintro ⟨id, hs, hmem⟩
    have hp : p < S.length := (List.getElem?_eq_some_iff.1 hs).1
    obtain ⟨g, hg⟩ : ∃ g, G.idxOf? id = some g := by
      cases h : G.idxOf? id with
      | some g => exact ⟨g, rfl⟩
      | none =>
        rw [List.idxOf?_eq_none_iff] at h
        exact absurd hmem h
    exact ⟨g, mem_matchIds.2 ⟨hp, id, hs, hg⟩⟩

/-- With unique IDs on both sides: a genome is matched iff its ID occurs in the file, and then to
the unique position holding that ID — whatever the order of the file and however much padding. -/
theorem genome_matched_iff {G S : List Nat} (hG : G.Nodup) (g : Nat) (hg : g < G.length) :
    (∃ p, (g, p) ∈ matchIds G S) ↔ G[g] ∈ S := by
  constructor
  · rintro ⟨p, h⟩
    obtain ⟨id, hs, hgid⟩ := pairing h
    have : G[g] = id := by simpa [List.getElem?_eq_getElem hg] using hgid
    rw [this]
    exact List.mem_of_getElem? hs
  · intro hmem
    obtain ⟨p, hp, hpe⟩ := List.getElem_of_mem hmem
    refine ⟨p, mem_matchIds.2 ⟨hp, G[g], by simp [hp, hpe], ?_⟩⟩
    rw [List.idxOf?_eq_some_iff]
    refine ⟨hg, rfl, ?_⟩
    intro j hj heq
    have := (List.pairwise_iff_getElem.1 hG) j g (Nat.lt_trans hj hg) hg hj
    exact this (by simpa using heq)

/-- Order / padding irrelevance: in two files that both contain the genome's ID, the genome is
paired with signatures stored under the same ID (its own). -/
theorem order_padding_irrelevant {G S S' : List Nat} {g p p' : Nat}
    (h : (g, p) ∈ matchIds G S) (h' : (g, p') ∈ matchIds G S') :
    ∃ id, S[p]? = some id ∧ S'[p']? = some id ∧ G[g]? = some id := by
  obtain ⟨id, hs, hg⟩ := pairing h
  obtain ⟨id', hs', hg'⟩ := pairing h'
  have : id = id' := by rw [hg] at hg'; exact Option.some.inj hg'
  subst this
  exact ⟨id, hs, hs', hg⟩

/-! ### Loading succeeds only when complete -/

theorem any_isNone_eq_false {G : List (Option Nat)} : G.any (·.isNone) = false ↔ ∀ x ∈ G, x ≠ none := by
  simp only [List.any_eq_false, Option.isNone_iff_eq_none, ne_eq]

/-- With a valid attribute: the two remaining refusals, in the order of the code. -/
theorem loadDb_true (G : List (Option Nat)) (S : List Nat) :
    loadDb (some true) G S =
      if G.any (·.isNone) then .error .runtimeError
      else if (matchIds (G.filterMap id) S).length ≠ G.length then .error .valueError
      else .ok (matchIds (G.filterMap id) S) := rfl

theorem load_no_attr (G : List (Option Nat)) (S : List Nat) : loadDb none G S = .error .typeError := rfl

theorem load_bad_attr (G : List (Option Nat)) (S : List Nat) : loadDb (some false) G S = .error .valueError := rfl

theorem load_missing_id (G : List (Option Nat)) (S : List Nat) (h : none ∈ G) :
    loadDb (some true) G S = .error .runtimeError := by
  rw [loadDb_true, if_pos (List.any_eq_true.2 ⟨none, h, rfl⟩)]

/-- A database object is produced only if every genome has been matched (count check), and then
the pairs are exactly `matchIds`. -/
theorem load_ok_iff (G : List (Option Nat)) (S : List Nat) (m : List (Nat × Nat)) :
    loadDb (some true) G S = .ok m ↔
      (∀ x ∈ G, x ≠ none) ∧ m = matchIds (G.filterMap id) S ∧ m.length = G.length := by
  rw [loadDb_true, ← any_isNone_eq_false]
  cases G.any (·.isNone) with
  | true => simp
  | false =>
    simp only [Bool.false_eq_true, if_false, true_and]
    by_cases hlen : (matchIds (G.filterMap id) S).length = G.length
    · rw [if_neg (fun h => h hlen)]
      exact ⟨fun h => by cases h; exact ⟨rfl, hlen⟩, fun ⟨h, _⟩ => by rw [h]⟩
    · rw [if_pos hlen]
      exact ⟨fun h => (by cases h), fun ⟨h, h'⟩ => absurd (h ▸ h') hlen⟩

/-! ### Directory contents -/

theorem locate_ok_iff (names : List (List Char)) (g s : List Char) :
    locateFiles names = some (g, s) ↔
      names.filter isGenomesFile = [g] ∧ names.filter isSignaturesFile = [s] := by
  unfold locateFiles
  constructor
  · intro h
    split at h
    · rename_i hg hs
      simp only [Option.some.injEq, Prod.mk.injEq] at h
      obtain ⟨rfl, rfl⟩ := h
      exact ⟨hg, hs⟩
    · cases h
  · rintro ⟨hg, hs⟩
    simp [hg, hs]

/-! ### Every reported distance is computed from the genome's own signature -/

/-- `query()` computes `jaccarddist_matrix(queries, signatures, ref_indices = sig_indices, chunksize)`.  With the pairing returned
by `loadDb`, column `j` of every row is the distance to the signature stored under genome `m[j].1`'s ID — for every chunk size and
whatever the output buffer held. (`sigs[p]` = signature at file position `p`, `S[p]` = its stored ID, `G[g]` = ID of genome `g`.) -/
theorem distances_use_paired {α β γ : Type} [Inhabited β] (dist : α → β → γ) (queries : List α) (sigs : List β)
    (G S : List Nat) (chunk : Option Nat) (hchunk : ∀ c, chunk = some c → 0 < c)
    (out : List (List γ)) (hlen : out.length = queries.length)
    (hrows : ∀ row ∈ out, row.length = (matchIds G S).length) :
    matrixModel dist queries sigs (some ((matchIds G S).map (·.2))) chunk out =
      queries.map (fun q => (matchIds G S).map (fun gp => dist q (sigs.getD gp.2 default))) ∧
    ∀ gp ∈ matchIds G S, ∃ id, S[gp.2]? = some id ∧ G[gp.1]? = some id := by
  constructor
  · have h := C05.matrix_cells dist queries sigs (some ((matchIds G S).map (·.2))) chunk hchunk out hlen
      (by intro row hr; simpa using hrows row hr)
    rw [h]
    simp [List.map_map, Function.comp_def]
  · intro gp hgp
    exact pairing (g := gp.1) (p := gp.2) hgp

/-! ### Non-vacuity -/

-- file order [c, x, a, b] with padding `x`; genome IDs [a, b, c] = [10, 20, 30]
example : matchIds [10, 20, 30] [30, 99, 10, 20] = [(2, 0), (0, 2), (1, 3)] := by decide
example : loadDb (some true) [some 10, some 20, some 30] [30, 99, 10, 20] = .ok [(2, 0), (0, 2), (1, 3)] := by rfl
example : loadDb (some true) [some 10, some 20, some 30] [30, 99, 10] = .error .valueError := by rfl
-- `+kernel` on the two longer listings: plain `decide` first evaluates the string comparisons in the elaborator, which is the slow part
example : locateFiles ["a.gdb".toList, "b.gs".toList, "readme.txt".toList] = some ("a.gdb".toList, "b.gs".toList) := by decide +kernel
example : locateFiles ["a.gdb".toList, "c.db".toList, "b.gs".toList] = none := by decide +kernel
example : locateFiles [".gdb".toList, "b.gs".toList] = none := by decide

end GambitV.C04
