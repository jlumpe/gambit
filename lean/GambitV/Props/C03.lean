import GambitV.Lemmas.Taxonomy

/-!
# C03 — default-mode classification: prediction, next taxon, monotonicity in the distance

The numbers in the docstrings are those of the target statements in `notes/C03_C09_statements.md` (a letter or a prime marks a
further statement under the same target).
Helper lemmas live in `Lemmas/Taxonomy.lean`.  All theorems quantify over
arbitrary forests (parent pointers need not even be acyclic), taxa, distances and distance lists.
-/
namespace GambitV.C03
open GambitV

/-- 1. `matching_taxon` returns the most specific threshold-bearing taxon of the lineage whose
threshold is not smaller than the distance. -/
theorem matchingTaxon_eq_spec (F : Forest) (t d : Nat) : matchingTaxon F t d = predictedSpec F t d :=
  matchingTaxon_eq_predictedSpec F t d

/-- 2. `np.argmin`: a genome at the minimum distance, and the first such. -/
theorem argminFirst_spec (ds : List Nat) (h : ds ≠ []) :
    argminFirst ds < ds.length ∧ (∀ x ∈ ds, ds.getD (argminFirst ds) 0 ≤ x) ∧
      (∀ j, j < argminFirst ds → ds.getD (argminFirst ds) 0 < ds.getD j 0) :=
  argminFirst_getD_spec ds h

/-- 3. `GenomeMatch.next_taxon` (the loop) computes the stated next taxon. -/
theorem next_eq_spec (F : Forest) (t d : Nat) : nextTaxon F t d = nextSpec F t d := by
  rw [nextSpec_eq_takeWhile, nextTaxon, nextWalk_eq_takeWhile, Option.or_none]
  rfl

/-- 4a. No next taxon when the prediction is the genome's own (first threshold-bearing) taxon. -/
theorem next_none_of_own (F : Forest) (t d p : Nat) (hh : (thrLineage F t).head? = some p)
    (hp : predictedSpec F t d = some p) : nextSpec F t d = none := by
  rw [nextSpec_eq_takeWhile]
  have hc : F.covers p d = true := by simpa using List.find?_some hp
  cases hT : thrLineage F t with
  | nil => rfl
  | cons a rest =>
    rw [hT] at hh
    cases hh
    simp [hc]

/-- 4b. With no prediction, the next taxon is the topmost threshold-bearing one. -/
theorem next_top_of_none (F : Forest) (t d : Nat) (hp : predictedSpec F t d = none) :
    nextSpec F t d = (thrLineage F t).getLast? := by
  have h : ∀ a ∈ thrLineage F t, (!F.covers a d) = true := fun a ha => by
    simpa using List.find?_eq_none.mp hp a ha
  have := List.takeWhile_append_of_pos (l₂ := []) h
  rw [nextSpec_eq_takeWhile]
  simpa using congrArg List.getLast? this

/-- 4c. The next taxon is threshold-bearing, in the lineage, does not cover the distance, and sits
immediately below the prediction among the threshold-bearing taxa of the lineage. -/
theorem next_props (F : Forest) (t d x : Nat) (hx : nextSpec F t d = some x) :
    x ∈ thrLineage F t ∧ F.covers x d = false ∧
      (∀ p, predictedSpec F t d = some p →
        ∃ i, (thrLineage F t)[i]? = some x ∧ (thrLineage F t)[i + 1]? = some p) := by
  rw [nextSpec_eq_takeWhile] at hx
  obtain ⟨pre, hpre⟩ : ∃ pre, (thrLineage F t).takeWhile (fun a => !F.covers a d) = pre ++ [x] :=
    List.getLast?_eq_some_iff.1 hx
  have hmem : x ∈ (thrLineage F t).takeWhile (fun a => !F.covers a d) := by rw [hpre]; simp
  have hsplit := List.takeWhile_append_dropWhile (p := fun a => !F.covers a d) (l := thrLineage F t)
  refine ⟨(List.takeWhile_sublist _).subset hmem,
    by simpa using List.all_eq_true.1 List.all_takeWhile x hmem, fun p hp => ?_⟩
  rw [predictedSpec_eq_dropWhile] at hp
  obtain ⟨rest, hrest⟩ := List.head?_eq_some_iff.1 hp
  rw [hpre, hrest, List.append_assoc] at hsplit
  refine ⟨pre.length, ?_, ?_⟩
  · rw [← hsplit, List.getElem?_append_right (Nat.le_refl _), Nat.sub_self]; rfl
  · rw [← hsplit, List.getElem?_append_right (Nat.le_add_right _ 1), Nat.add_sub_cancel_left]; rfl

/-- 5. A distance exactly equal to the threshold matches. -/
theorem threshold_equality_matches (F : Forest) (a th : Nat) (h : F.thrOf a = some th) :
    F.covers a th = true :=
  covers_eq_true_iff.2 ⟨th, h, Nat.le_refl th⟩

/-- 6. Increasing the distance can only keep or coarsen a prediction, never make it more specific;
in particular a prediction at `d'` implies one at every `d ≤ d'`. -/
theorem coarsen_mono (F : Forest) (t : Nat) (d d' : Nat) (h : d ≤ d') (p' : Nat)
    (hp' : predictedSpec F t d' = some p') :
    ∃ (p i j : Nat), predictedSpec F t d = some p ∧ i ≤ j ∧ (F.lineage t)[i]? = some p ∧
      (F.lineage t)[j]? = some p' := by
  rw [← matchingTaxon_eq_spec] at hp' ⊢
  unfold matchingTaxon at hp' ⊢
  exact find?_weaken (fun a => F.covers a d) (fun a => F.covers a d')
    (fun a ha => covers_mono h ha) _ p' hp'

/-- 7. The primary match is the closest genome exactly when something is predicted. -/
theorem primary_iff (F : Forest) (gtax ds : List Nat) :
    (classifyDefault F gtax ds).primary =
      (if (classifyDefault F gtax ds).predicted.isSome then some (classifyDefault F gtax ds).closest
       else none) := rfl

theorem reportable_eq_spec (F : Forest) (p : Option Nat) : reportable F p = reportSpec F p := by
  cases p <;> rfl

/-- 8. The default-mode result satisfies the whole statement. -/
theorem classifyDefault_ok (F : Forest) (gtax ds : List Nat) (h : ds ≠ []) :
    let r := classifyDefault F gtax ds
    defaultOk F gtax ds r.closest r.predicted r.primary r.next (reportable F r.predicted) = true := by
  intro r
  obtain ⟨h1, h2, _⟩ := argminFirst_spec ds h
  have hc : r.closest = argminFirst ds := rfl
  have hp : r.predicted = predictedSpec F (gtax.getD (argminFirst ds) 0) (ds.getD (argminFirst ds) 0) :=
    matchingTaxon_eq_spec _ _ _
  have hn : r.next = nextSpec F (gtax.getD (argminFirst ds) 0) (ds.getD (argminFirst ds) 0) :=
    next_eq_spec _ _ _
  have hpr : r.primary = (if r.predicted.isSome then some r.closest else none) := rfl
  unfold defaultOk
  simp only [Bool.and_eq_true, decide_eq_true_eq, List.all_eq_true, beq_iff_eq]
  rw [hc]
  refine ⟨⟨⟨⟨⟨h1, h2⟩, hp⟩, ?_⟩, hn⟩, reportable_eq_spec _ _⟩
  rw [hpr, hc]

/-! ### 9. Non-vacuity: lineage `U(0, no thr) → S1(1, thr 3) → G(2, thr 5)`, genome on `U` -/

def exF : Forest :=
  { parent := [some 1, some 2, none], thr := [none, some 3, some 5], report := [true, true, true] }

example : exF.lineage 0 = [0, 1, 2] := by decide
example : predictedSpec exF 0 2 = some 1 ∧ nextSpec exF 0 2 = none := by decide
example : predictedSpec exF 0 4 = some 2 ∧ nextSpec exF 0 4 = some 1 := by decide
example : predictedSpec exF 0 6 = none ∧ nextSpec exF 0 6 = some 2 := by decide
example : matchingTaxon exF 0 2 = some 1 ∧ nextTaxon exF 0 2 = none := by decide
example : matchingTaxon exF 0 4 = some 2 ∧ nextTaxon exF 0 4 = some 1 := by decide
example : matchingTaxon exF 0 6 = none ∧ nextTaxon exF 0 6 = some 2 := by decide
/-- threshold equality matches: d = 3 still predicts `S1` -/
example : predictedSpec exF 0 3 = some 1 := by decide
/-- the hypotheses of `coarsen_mono` are satisfiable, with a strict coarsening -/
example : predictedSpec exF 0 4 = some 2 ∧ predictedSpec exF 0 2 = some 1 ∧
    (exF.lineage 0)[1]? = some 1 ∧ (exF.lineage 0)[2]? = some 2 := by decide
example : (classifyDefault exF [2, 0, 1] [9, 2, 2]).closest = 1 ∧
    (classifyDefault exF [2, 0, 1] [9, 2, 2]).predicted = some 1 ∧
    (classifyDefault exF [2, 0, 1] [9, 2, 2]).primary = some 1 ∧
    (classifyDefault exF [2, 0, 1] [9, 2, 2]).next = none := by decide
example : argminFirst [4, 1, 3, 1] = 1 := by decide

end GambitV.C03
