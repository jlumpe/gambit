import GambitV.Lemmas.UnionCount
import GambitV.Lemmas.F32
import Mathlib.Data.Finset.Card
import Mathlib.Data.Finset.SymmDiff
import Mathlib.Data.List.Pairwise

/-!
# C02 — `c_jaccarddist` computes the Jaccard distance of the two sorted coordinate arrays

`A1`–`A9`, `F1`–`F8` (and `B1`–`B6` in `Props/C15`) number the target statements of `notes/C02_C15_statements.md`.

Part A: exact (set-level) statements about the merge count and the shape of the float expression.
-/
namespace GambitV.C02
open GambitV

theorem length_eq_card_of_sorted {a : List Nat} (ha : a.Pairwise (· < ·)) :
    a.length = a.toFinset.card :=
  (List.toFinset_card_of_nodup (ha.imp (fun h => Nat.ne_of_lt h))).symm

theorem notMem_tail {x b : ℕ} {bs : List ℕ} (hb : (b :: bs).Pairwise (· < ·)) (h : x ≤ b) :
    x ∉ bs.toFinset :=
  fun hm => absurd (List.rel_of_pairwise_cons hb (List.mem_toFinset.mp hm)) (Nat.not_lt.mpr h)

/-- A1. On strictly increasing arrays the merge loop's `u` is `|A ∪ B|`. -/
theorem unionCount_eq_card {a b : List Nat} (ha : a.Pairwise (· < ·)) (hb : b.Pairwise (· < ·)) :
    unionCount a b = (a.toFinset ∪ b.toFinset).card := by
  induction a, b using unionCount.induct with
  | case1 bs =>
    rw [unionCount_nil_left, List.toFinset_nil, Finset.empty_union]
    exact length_eq_card_of_sorted hb
  | case2 a as =>
    rw [unionCount_nil_right, List.toFinset_nil, Finset.union_empty]
    exact length_eq_card_of_sorted ha
  | case3 a as b bs h ih =>
    rw [unionCount_cons_cons, if_pos h, ih ha.of_cons hb, List.toFinset_cons (a := a),
      Finset.insert_union, Finset.card_insert_of_notMem]
    rw [List.toFinset_cons, Finset.mem_union, Finset.mem_insert]
    exact not_or.mpr ⟨notMem_tail ha le_rfl, not_or.mpr ⟨h.ne, notMem_tail hb h.le⟩⟩
  | case4 a as b bs h1 h2 ih =>
    rw [unionCount_cons_cons, if_neg h1, if_pos h2, ih ha hb.of_cons, List.toFinset_cons (a := b),
      Finset.union_insert, Finset.card_insert_of_notMem]
    rw [List.toFinset_cons, Finset.mem_union, Finset.mem_insert]
    exact not_or.mpr ⟨not_or.mpr ⟨h2.ne, notMem_tail ha h2.le⟩, notMem_tail hb le_rfl⟩
  | case5 a as b bs h1 h2 ih =>
    obtain rfl : a = b := by omega
    rw [unionCount_cons_cons, if_neg h1, if_neg h1, ih ha.of_cons hb.of_cons, List.toFinset_cons,
      List.toFinset_cons, Finset.insert_union, Finset.union_insert, Finset.insert_idem,
      Finset.card_insert_of_notMem]
    exact Finset.notMem_union.mpr ⟨notMem_tail ha le_rfl, notMem_tail hb le_rfl⟩

/-- A2. The merge count is symmetric (for arbitrary, not necessarily sorted, inputs). -/
theorem unionCount_comm (a b : List Nat) : unionCount a b = unionCount b a := by
  induction a, b using unionCount.induct with
  | case1 bs => rw [unionCount_nil_left, unionCount_nil_right]
  | case2 a as => rw [unionCount_nil_left, unionCount_nil_right]
  | case3 a as b bs h ih =>
    rw [unionCount_cons_cons, unionCount_cons_cons, if_pos h, if_neg (Nat.lt_asymm h), if_pos h, ih]
  | case4 a as b bs h1 h2 ih =>
    rw [unionCount_cons_cons, unionCount_cons_cons, if_neg h1, if_pos h2, if_pos h2, ih]
  | case5 a as b bs h1 h2 ih =>
    rw [unionCount_cons_cons, unionCount_cons_cons, if_neg h1, if_neg h2, if_neg h2, if_neg h1, ih]

/-- A3 (general form, no sortedness needed). -/
theorem unionCount_bounds_general (a b : List Nat) :
    a.length ≤ unionCount a b ∧ b.length ≤ unionCount a b ∧
      unionCount a b ≤ a.length + b.length := by
  induction a, b using unionCount.induct with
  | case1 bs => simp [unionCount_nil_left]
  | case2 a as => simp [unionCount_nil_right]
  | case3 a as b bs h ih =>
    rw [unionCount_cons_cons, if_pos h]; simp only [List.length_cons] at ih ⊢; omega
  | case4 a as b bs h1 h2 ih =>
    rw [unionCount_cons_cons, if_neg h1, if_pos h2]; simp only [List.length_cons] at ih ⊢; omega
  | case5 a as b bs h1 h2 ih =>
    rw [unionCount_cons_cons, if_neg h1, if_neg h2]; simp only [List.length_cons] at ih ⊢; omega

/-- A3. `max N M ≤ u ≤ N + M`. -/
theorem unionCount_bounds {a b : List Nat} (_ha : a.Pairwise (· < ·)) (_hb : b.Pairwise (· < ·)) :
    a.length ≤ unionCount a b ∧ b.length ≤ unionCount a b ∧
      unionCount a b ≤ a.length + b.length :=
  unionCount_bounds_general a b

theorem card_symmDiff_add_inter (A B : Finset ℕ) :
    (symmDiff A B).card + (A ∩ B).card = (A ∪ B).card := by
  rw [symmDiff_eq_sup_sdiff_inf]
  exact Finset.card_sdiff_add_card_eq_card Finset.inter_subset_union

/-- A4. The numerator `2u - N - M` is `|A ∆ B|` (the subtraction does not truncate, by A3). -/
theorem symmDiff_card {a b : List Nat} (ha : a.Pairwise (· < ·)) (hb : b.Pairwise (· < ·)) :
    2 * unionCount a b - a.length - b.length = (symmDiff a.toFinset b.toFinset).card := by
  have h1 := card_symmDiff_add_inter a.toFinset b.toFinset
  have h2 := Finset.card_union_add_card_inter a.toFinset b.toFinset
  rw [unionCount_eq_card ha hb, length_eq_card_of_sorted ha, length_eq_card_of_sorted hb]
  omega

theorem jaccardBits_of_union_zero {a b : List Nat} (h : unionCount a b = 0) :
    jaccardBits a b = 0 := by
  simp [jaccardBits, h, F32.zeroBits]

/-- A5. Two empty signatures have distance `+0.0`. -/
theorem jaccard_empty : jaccardBits [] [] = 0 :=
  jaccardBits_of_union_zero (unionCount_nil_left [])

theorem unionCount_eq_zero_iff (a b : List Nat) : unionCount a b = 0 ↔ a = [] ∧ b = [] := by
  constructor
  · intro h
    obtain ⟨h1, h2, -⟩ := unionCount_bounds_general a b
    exact ⟨List.eq_nil_of_length_eq_zero (by omega), List.eq_nil_of_length_eq_zero (by omega)⟩
  · rintro ⟨rfl, rfl⟩; simp [unionCount_nil_left]

/-- A6. For a non-empty union the result is `(float)(2u-N-M) / (float)u`, both conversions being of
non-negative integers (no sortedness needed: A3 holds for arbitrary inputs). -/
theorem jaccardBits_unfold {a b : List Nat} (h : unionCount a b ≠ 0) :
    jaccardBits a b =
      F32.div (F32.ofNat (2 * unionCount a b - a.length - b.length)) (F32.ofNat (unionCount a b)) := by
  obtain ⟨h1, h2, -⟩ := unionCount_bounds_general a b
  simp only [jaccardBits, if_neg h]
  rw [show (2 * (unionCount a b : Int)) - a.length - b.length
      = ((2 * unionCount a b - a.length - b.length : Nat) : Int) by omega,
    F32.ofInt_natCast, F32.ofInt_natCast]

/-- A7. Bit-for-bit symmetry. -/
theorem jaccardBits_symm (a b : List Nat) : jaccardBits a b = jaccardBits b a := by
  unfold jaccardBits
  rw [unionCount_comm a b]
  have : (2 * (unionCount b a : Int)) - a.length - b.length
       = (2 * (unionCount b a : Int)) - b.length - a.length := by omega
  simp only [this]

/-- A8. `jaccard = 1 - jaccarddist` in single precision. -/
theorem index_eq_one_sub (a b : List Nat) :
    jaccardIndexBits a b = F32.sub F32.oneBits (jaccardBits a b) := rfl

/-- A9. `_cast_sigs_array` accepts exactly the native-byte-order integer dtypes of 2, 4 or 8 bytes, keeping the width. -/
theorem castDtype_spec (kind : Char) (size w : Nat) (native : Bool) :
    castDtype kind size native = some w ↔
      native = true ∧ (kind = 'u' ∨ kind = 'i') ∧ (size = 2 ∨ size = 4 ∨ size = 8) ∧ w = size := by
  unfold castDtype
  split
  · next h => simp only [Option.some.injEq, h, true_and, eq_comm]
  · next h => simp only [reduceCtorEq, false_iff]; exact fun e => h ⟨e.1, e.2.1, e.2.2.1⟩

/-- The specification value is `roundRat` itself: `roundRat n 0` is `+0.0` already. -/
theorem jaccardSpecBits_eq (n u : ℕ) : jaccardSpecBits n u = F32.roundRat n u := by
  unfold jaccardSpecBits
  split
  · next h => rw [h, F32.roundRat_zero_right]; rfl
  · rfl

/-- The arithmetic of the kernel, for arbitrary inputs: with a union count below `2^24` both
conversions are exact and the division rounds the exact ratio `(2u-N-M)/u` once. -/
theorem jaccardBits_eq_roundRat {a b : List Nat} (hu : unionCount a b < 2 ^ 24) :
    jaccardBits a b = F32.roundRat (2 * unionCount a b - a.length - b.length) (unionCount a b) := by
  by_cases h : unionCount a b = 0
  · rw [jaccardBits_of_union_zero h, h, F32.roundRat_zero_right]
  · have := unionCount_bounds_general a b
    rw [jaccardBits_unfold h]
    exact F32.div_ofNat' (Nat.pos_of_ne_zero h) (by omega) hu

/-! ### Part B: the binary32 layer -/

/-- F1. `ratExp` is the floor of the binary logarithm of the ratio. -/
theorem ratExp_spec {num den : ℕ} (hn : 0 < num) (hd : 0 < den) :
    (den : ℚ) * 2 ^ (F32.ratExp num den) ≤ num ∧ (num : ℚ) < den * 2 ^ (F32.ratExp num den + 1) :=
  F32.ratExp_spec hn hd

theorem ratExp_unique {num den : ℕ} (hn : 0 < num) (hd : 0 < den) (e : ℤ)
    (h1 : (den : ℚ) * 2 ^ e ≤ num) (h2 : (num : ℚ) < den * 2 ^ (e + 1)) :
    F32.ratExp num den = e :=
  F32.ratExp_unique hn hd e h1 h2

/-- F2. The rounding function depends only on the ratio. -/
theorem roundRat_scale {c : ℕ} (hc : 0 < c) (num den : ℕ) :
    F32.roundRat (c * num) (c * den) = F32.roundRat num den :=
  F32.roundRat_scale hc num den

/-- F3. Integer-to-float conversion is exact below `2^24`. -/
theorem ofNat_exact {n : ℕ} (h0 : 0 < n) (h : n < 2 ^ 24) :
    ∃ m s : ℕ, F32.decode (F32.ofNat n) = some (m, -(s : ℤ)) ∧ m = n * 2 ^ s :=
  F32.ofNat_exact h0 h

/-- F4. Dividing two exactly converted integers rounds the exact quotient once. -/
theorem div_ofNat {n u : ℕ} (h0 : 0 < n) (hu : 0 < u) (hn : n < 2 ^ 24) (hu' : u < 2 ^ 24) :
    F32.div (F32.ofNat n) (F32.ofNat u) = F32.roundRat n u :=
  F32.div_ofNat h0 hu hn hu'

theorem div_ofNat_zero {u : ℕ} (hu : 0 < u) (hu' : u < 2 ^ 24) :
    F32.div (F32.ofNat 0) (F32.ofNat u) = 0 :=
  F32.div_ofNat_zero hu hu'

/-- F5. For sorted inputs whose union has fewer than `2^24` elements, the value returned by
`c_jaccarddist` is the correctly rounded (nearest, ties-to-even) binary32 value of the exact
Jaccard distance `|A ∆ B| / |A ∪ B|`. -/
theorem jaccard_correctly_rounded {a b : List Nat}
    (ha : a.Pairwise (· < ·)) (hb : b.Pairwise (· < ·)) (hu : unionCount a b < 2 ^ 24) :
    jaccardBits a b =
      jaccardSpecBits (symmDiff a.toFinset b.toFinset).card (a.toFinset ∪ b.toFinset).card := by
  rw [← symmDiff_card ha hb, ← unionCount_eq_card ha hb, jaccardSpecBits_eq,
    jaccardBits_eq_roundRat hu]

/-! ### Value-level facts (F6–F8), `F32.val b` = the exact rational value of a bit pattern -/

/-- F6. For `0 < n ≤ u < 2^24` the rounded ratio lies in `(0, 1]`. -/
theorem roundRat_val_mem_unit {n u : ℕ} (hn : 0 < n) (hle : n ≤ u) (hu : u < 2 ^ 24) :
    0 < F32.val (F32.roundRat n u) ∧ F32.val (F32.roundRat n u) ≤ 1 :=
  ⟨F32.val_roundRat_pos hn (hn.trans_le hle) (hle.trans_lt hu) hu, (F32.val_roundRat_mem_unit hle hu).2⟩

/-- F6. -/
theorem roundRat_eq_one_iff {n u : ℕ} (hn : 0 < n) (hle : n ≤ u) (hu : u < 2 ^ 24) :
    F32.roundRat n u = F32.oneBits ↔ n = u :=
  F32.roundRat_eq_one_iff hn hle hu

/-- F6. -/
theorem roundRat_eq_zero_iff {n u : ℕ} (hu : 0 < u) (hn' : n < 2 ^ 24) (hu' : u < 2 ^ 24) :
    F32.roundRat n u = 0 ↔ n = 0 :=
  F32.roundRat_eq_zero_iff hu hn' hu'

/-- F7. The rounded ratio is within `2^-25` of the exact one. -/
theorem roundRat_err_unit {n u : ℕ} (hn : 0 < n) (hle : n ≤ u) (hu : u < 2 ^ 24) :
    |F32.val (F32.roundRat n u) - (n : ℚ) / u| ≤ 1 / 2 ^ 25 :=
  F32.roundRat_err_unit hn hle hu

/-- F7 (general form): half an ulp of the binade of the exact ratio. -/
theorem roundRat_err {num den : ℕ} (hn : 0 < num) (hd : 0 < den)
    (he1 : -126 ≤ F32.ratExp num den) (he2 : F32.ratExp num den ≤ 126) :
    |F32.val (F32.roundRat num den) - (num : ℚ) / den| ≤ 2 ^ (F32.ratExp num den - 24) :=
  F32.roundRat_err hn hd he1 he2

/-- F8. Rounding is monotone (for the operand range of the distance kernel). -/
theorem roundRat_mono {n u n' u' : ℕ} (hn : 0 < n) (hu : 0 < u) (hn' : 0 < n') (hu' : 0 < u')
    (bn : n < 2 ^ 24) (bu : u < 2 ^ 24) (bn' : n' < 2 ^ 24) (bu' : u' < 2 ^ 24)
    (h : (n : ℚ) / u ≤ (n' : ℚ) / u') :
    F32.val (F32.roundRat n u) ≤ F32.val (F32.roundRat n' u') := by
  obtain ⟨e1, e2⟩ := F32.ratExp_normal hn hu bn bu
  obtain ⟨e1', e2'⟩ := F32.ratExp_normal hn' hu' bn' bu'
  exact F32.roundRat_mono hn hu hn' hu' e1 e2 e1' e2' h

/-- F8 (strict). -/
theorem roundRat_succ_den_lt {n u : ℕ} (hn : 0 < n) (hle : n ≤ u) (hu : u + 1 < 2 ^ 23) :
    F32.val (F32.roundRat n (u + 1)) < F32.val (F32.roundRat n u) :=
  F32.roundRat_succ_den_lt hn hle hu

/-! ### Non-vacuity -/

example : unionCount [1, 2, 3] [2, 3, 4] = 4 := by decide +kernel
example : jaccardBits [1, 2, 3] [2, 3, 4] = 0x3F000000 := by decide +kernel
example : jaccardIndexBits [1, 2, 3] [2, 3, 4] = 0x3F000000 := by decide +kernel
example : jaccardSpecBits 2 4 = 0x3F000000 := by decide +kernel
example : jaccardBits [1, 2] [1, 3, 4] = 0x3F400000 := by decide +kernel
example : jaccardBits [1, 2, 5] [1, 2, 4] = 0x3F000000 := by decide +kernel
-- 1/3 is not representable: the result is the nearest float 0x3EAAAAAB = 11184811 * 2^-25
example : jaccardBits [1, 2] [1, 2, 3] = 0x3EAAAAAB := by decide +kernel
example : jaccardSpecBits (symmDiff ([1, 2] : List Nat).toFinset [1, 2, 3].toFinset).card
    (([1, 2] : List Nat).toFinset ∪ [1, 2, 3].toFinset).card = 0x3EAAAAAB := by decide +kernel
example : castDtype 'u' 8 = some 8 ∧ castDtype 'f' 4 = none ∧ castDtype 'i' 1 = none ∧ castDtype 'i' 4 false = none := by decide

-- the hypotheses of F5 are satisfiable
example : jaccardBits [1, 2] [1, 2, 3] =
    jaccardSpecBits (symmDiff ([1, 2] : List Nat).toFinset [1, 2, 3].toFinset).card
      (([1, 2] : List Nat).toFinset ∪ [1, 2, 3].toFinset).card :=
  jaccard_correctly_rounded (by decide) (by decide) (by decide +kernel)

end GambitV.C02
