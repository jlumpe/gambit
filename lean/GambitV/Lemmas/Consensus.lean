import GambitV.Spec.Taxonomy

/-!
`consensus_taxon` on root-first paths (C10).  The merge loop `consensusFold` keeps the invariant `ConsInv`: the
consensus is the longest matched path of a single lineage, or the point where two matched paths part (`Forks`);
"no common ancestor" is the second case at the empty path.  The invariant determines `consensusSpec`.
-/
namespace GambitV

theorem isPrefix_iff (p s : List Nat) : isPrefix p s = true ↔ p <+: s := by
  unfold isPrefix
  simp only [Bool.and_eq_true, decide_eq_true_eq, beq_iff_eq]
  constructor
  · rintro ⟨_, h⟩
    rw [List.prefix_iff_eq_take]
    exact h.symm
  · intro h
    exact ⟨h.length_le, (List.prefix_iff_eq_take.mp h).symm⟩

theorem isPrefix_false_iff (p s : List Nat) : isPrefix p s = false ↔ ¬ p <+: s := by
  rw [← isPrefix_iff]; simp

theorem properPrefix_iff (p s : List Nat) :
    properPrefix p s = true ↔ p <+: s ∧ p.length < s.length := by
  unfold properPrefix
  simp only [Bool.and_eq_true, decide_eq_true_eq, isPrefix_iff]

theorem prefix_antisymm {α : Type} {a b : List α} (h1 : a <+: b) (h2 : b <+: a) : a = b :=
  h1.eq_of_length_le h2.length_le

theorem head?_eq_of_prefix {α : Type} {p s : List α} (h : p <+: s) (hp : p ≠ []) : s.head? = p.head? := by
  obtain ⟨r, rfl⟩ := h
  cases p with
  | nil => exact absurd rfl hp
  | cons a p => rfl

theorem lcp_nil_left (b : List Nat) : lcp [] b = [] := by simp [lcp]
theorem lcp_nil_right (a : List Nat) : lcp a [] = [] := by cases a <;> simp [lcp]
theorem lcp_cons (a : Nat) (as : List Nat) (b : Nat) (bs : List Nat) :
    lcp (a :: as) (b :: bs) = if a = b then a :: lcp as bs else [] := by simp [lcp]

/-- `lcp a b` is the greatest common prefix -/
theorem prefix_lcp_iff : ∀ {p a b : List Nat}, p <+: lcp a b ↔ p <+: a ∧ p <+: b
  | [], _, _ => by simp
  | x :: p, [], _ => by simp [lcp_nil_left]
  | x :: p, _ :: _, [] => by simp [lcp_nil_right]
  | x :: p, a :: as, b :: bs => by
    rw [lcp_cons, List.cons_prefix_cons, List.cons_prefix_cons]
    split
    · next h =>
      subst h
      rw [List.cons_prefix_cons, prefix_lcp_iff, and_and_left]
    · next h =>
      constructor
      · intro h0; simp at h0
      · rintro ⟨⟨rfl, _⟩, ⟨rfl, _⟩⟩; exact absurd rfl h

theorem lcp_append_left (s : List Nat) : ∀ p q : List Nat, lcp (s ++ p) (s ++ q) = s ++ lcp p q := by
  induction s with
  | nil => intro p q; rfl
  | cons x s ih => intro p q; simp [lcp_cons, ih]

theorem lcp_eq_nil_of_disjoint {p q : List Nat} (h : ∀ y ∈ q, y ∉ p) : lcp p q = [] := by
  cases p with
  | nil => exact lcp_nil_left _
  | cons a p =>
    cases q with
    | nil => exact lcp_nil_right _
    | cons b q =>
      rw [lcp_cons, if_neg]
      intro e
      exact h b List.mem_cons_self (e ▸ List.mem_cons_self)

theorem lcp_prefix_left (a b : List Nat) : lcp a b <+: a := (prefix_lcp_iff.1 List.prefix_rfl).1

theorem lcp_prefix_right (a b : List Nat) : lcp a b <+: b := (prefix_lcp_iff.1 List.prefix_rfl).2

theorem prefix_lcp {p a b : List Nat} (h1 : p <+: a) (h2 : p <+: b) : p <+: lcp a b := prefix_lcp_iff.2 ⟨h1, h2⟩

theorem lcp_eq_left {a b : List Nat} (h : a <+: b) : lcp a b = a :=
  prefix_antisymm (lcp_prefix_left a b) (prefix_lcp List.prefix_rfl h)

theorem lcp_eq_right {a b : List Nat} (h : b <+: a) : lcp a b = b :=
  prefix_antisymm (lcp_prefix_right a b) (prefix_lcp h List.prefix_rfl)

/-- Two lists that part before either ends: extending them does not move the point where they part. -/
theorem lcp_extend : ∀ {a b a' b' : List Nat}, a <+: a' → b <+: b' → lcp a b ≠ a → lcp a b ≠ b →
    lcp a' b' = lcp a b
  | [], _, _, _, _, _, h, _ => absurd (lcp_nil_left _) h
  | _ :: _, [], _, _, _, _, _, h => absurd (lcp_nil_right _) h
  | x :: a, y :: b, _, _, ⟨ra, rfl⟩, ⟨rb, rfl⟩, h1, h2 => by
    simp only [List.cons_append, lcp_cons] at h1 h2 ⊢
    by_cases hxy : x = y
    · simp only [hxy, if_true, ne_eq, List.cons.injEq, true_and] at h1 h2 ⊢
      exact lcp_extend (List.prefix_append a ra) (List.prefix_append b rb) h1 h2
    · simp only [if_neg hxy]

/-- `a` and `b` part at `c`: it is their longest common prefix and neither of them. -/
def Forks (c a b : List Nat) : Prop := lcp a b = c ∧ c ≠ a ∧ c ≠ b

theorem Forks.extend {c a b a' b' : List Nat} (h : Forks c a b) (ha : a <+: a') (hb : b <+: b') :
    Forks c a' b' := by
  obtain ⟨rfl, h1, h2⟩ := h
  refine ⟨lcp_extend ha hb h1 h2, fun e => h1 ?_, fun e => h2 ?_⟩
  · exact prefix_antisymm (lcp_prefix_left a b) (e ▸ ha)
  · exact prefix_antisymm (lcp_prefix_right a b) (e ▸ hb)

theorem Forks.not_prefix {c a b : List Nat} (h : Forks c a b) : ¬ a <+: b ∧ ¬ b <+: a :=
  ⟨fun hp => h.2.1 (h.1 ▸ lcp_eq_left hp), fun hp => h.2.2 (h.1 ▸ lcp_eq_right hp)⟩

theorem head?_ne_of_lcp_eq_nil {a b : List Nat} (ha : a ≠ []) (hb : b ≠ []) (h : lcp a b = []) :
    a.head? ≠ b.head? := by
  cases a with
  | nil => exact absurd rfl ha
  | cons x a =>
    cases b with
    | nil => exact absurd rfl hb
    | cons y b =>
      rw [lcp_cons] at h
      by_cases hxy : x = y
      · rw [if_pos hxy] at h; simp at h
      · simpa using hxy

/-- State `(c, split)` after the non-empty set `seen` of matched paths has been processed: either `c` is the
longest of them and all lie on its lineage, or all are comparable with `c` and two of them part at `c`.
"No common ancestor" is the second case with `c = []`. -/
structure ConsInv (seen : List (List Nat)) (c : List Nat) (split : Bool) : Prop where
  chain : split = false → c ∈ seen ∧ ∀ s ∈ seen, s <+: c
  fork : split = true → (∀ s ∈ seen, s <+: c ∨ c <+: s) ∧ ∃ s₁ ∈ seen, ∃ s₂ ∈ seen, Forks c s₁ s₂

theorem ConsInv.below {seen : List (List Nat)} {c : List Nat} {split : Bool} (hi : ConsInv seen c split) :
    ∃ s ∈ seen, c <+: s := by
  cases split with
  | false => exact ⟨c, (hi.chain rfl).1, List.prefix_rfl⟩
  | true =>
    obtain ⟨_, s₁, h₁, _, _, hf⟩ := hi.fork rfl
    exact ⟨s₁, h₁, hf.1 ▸ lcp_prefix_left _ _⟩

theorem ConsInv.comp {seen : List (List Nat)} {c : List Nat} {split : Bool} (hi : ConsInv seen c split) :
    ∀ s ∈ seen, s <+: c ∨ c <+: s := by
  cases split with
  | false => exact fun s hs => Or.inl ((hi.chain rfl).2 s hs)
  | true => exact (hi.fork rfl).1

theorem ConsInv.congr {A B : List (List Nat)} {c : List Nat} {split : Bool}
    (h : ∀ x, x ∈ A ↔ x ∈ B) (hi : ConsInv A c split) : ConsInv B c split where
  chain := fun hsp => ⟨(h c).1 (hi.chain hsp).1, fun s hs => (hi.chain hsp).2 s ((h s).2 hs)⟩
  fork := fun hsp => by
    obtain ⟨hc, s₁, h₁, s₂, h₂, hf⟩ := hi.fork hsp
    exact ⟨fun s hs => hc s ((h s).2 hs), s₁, (h _).1 h₁, s₂, (h _).1 h₂, hf⟩

theorem ConsInv.init (t : List Nat) : ConsInv [t] t false where
  chain := fun _ => ⟨List.mem_singleton.2 rfl, fun s hs => by
    rw [List.mem_singleton.1 hs]; exact List.prefix_rfl⟩
  fork := fun h => by cases h

/-- A path on the lineage of the consensus, or below a consensus that is already a fork, changes nothing. -/
theorem ConsInv.cons_same {seen : List (List Nat)} {c t : List Nat} {split : Bool}
    (hi : ConsInv seen c split) (ht : t <+: c ∨ split = true ∧ c <+: t) : ConsInv (t :: seen) c split where
  chain := fun hsp => by
    have htc : t <+: c := ht.resolve_right (fun h => by rw [hsp] at h; cases h.1)
    exact ⟨List.mem_cons_of_mem _ (hi.chain hsp).1, List.forall_mem_cons.2 ⟨htc, (hi.chain hsp).2⟩⟩
  fork := fun hsp => by
    obtain ⟨hc, s₁, h₁, s₂, h₂, hf⟩ := hi.fork hsp
    exact ⟨List.forall_mem_cons.2 ⟨ht.imp_right And.right, hc⟩,
      s₁, List.mem_cons_of_mem _ h₁, s₂, List.mem_cons_of_mem _ h₂, hf⟩

/-- `none` read as a state: two paths part at the empty path -/
def trunkOf (o : Option Trunk) : Trunk := o.getD { c := [], split := true }

/-- Every branch of `consensusStep` preserves the invariant, the failing one as a fork at `[]`. -/
theorem consensusStep_inv {seen : List (List Nat)} {s : Trunk} {t : List Nat}
    (hi : ConsInv seen s.c s.split) (hs : s.c ≠ []) (ht : t ≠ []) :
    ConsInv (t :: seen) (trunkOf (consensusStep s t)).c (trunkOf (consensusStep s t)).split ∧
      ∀ s', consensusStep s t = some s' → s'.c ≠ [] := by
  have hsome : ∀ {r : Trunk}, ConsInv (t :: seen) r.c r.split → r.c ≠ [] →
      ConsInv (t :: seen) (trunkOf (some r)).c (trunkOf (some r)).split ∧
        ∀ s', some r = some s' → s'.c ≠ [] :=
    fun h hr => ⟨h, fun s' e => by cases e; exact hr⟩
  obtain ⟨w, hw, hcw⟩ := hi.below
  have hlc : lcp s.c t <+: s.c := lcp_prefix_left _ _
  unfold consensusStep
  by_cases h1 : isPrefix t s.c = true
  · -- taxon in trunk
    rw [if_pos h1]
    exact hsome (hi.cons_same (Or.inl ((isPrefix_iff _ _).1 h1))) hs
  rw [if_neg h1]
  simp only
  have h1' : lcp s.c t ≠ t := fun h5 => h1 ((isPrefix_iff _ _).2 (h5 ▸ hlc))
  by_cases h2 : lcp s.c t = []
  · -- no common ancestor: the trunk and the new path part at `[]`
    rw [if_pos h2]
    have hf : Forks [] s.c t := ⟨h2, hs.symm, ht.symm⟩
    exact ⟨{ chain := fun hsp => by cases hsp
             fork := fun _ => ⟨fun _ _ => Or.inr List.nil_prefix, w, List.mem_cons_of_mem _ hw, t,
               List.mem_cons_self, hf.extend hcw List.prefix_rfl⟩ }, fun _ e => by cases e⟩
  rw [if_neg h2]
  by_cases h3 : lcp s.c t = s.c
  · rw [if_pos h3]
    have hct : s.c <+: t := h3 ▸ lcp_prefix_right s.c t
    cases h4 : s.split with
    | true =>
      -- meets the trunk at its tip, consensus already a fork: unchanged
      exact hsome (hi.cons_same (Or.inr ⟨h4, hct⟩)) hs
    | false =>
      -- descends below a non-fork consensus: becomes the consensus
      exact hsome (r := { c := t, split := false })
        { chain := fun _ => ⟨List.mem_cons_self, List.forall_mem_cons.2
            ⟨List.prefix_rfl, fun x hx => ((hi.chain h4).2 x hx).trans hct⟩⟩
          fork := fun hsp => by cases hsp } ht
  · -- meets further up: the trunk and the new path part at their lcp
    rw [if_neg h3]
    have hf : Forks (lcp s.c t) s.c t := ⟨rfl, h3, h1'⟩
    exact hsome (r := { c := lcp s.c t, split := true })
      { chain := fun hsp => by cases hsp
        fork := fun _ => ⟨List.forall_mem_cons.2 ⟨Or.inr (lcp_prefix_right _ _), fun z hz =>
            (hi.comp z hz).elim (fun hzc => List.prefix_or_prefix_of_prefix hzc hlc)
              (fun hcz => Or.inr (hlc.trans hcz))⟩,
          w, List.mem_cons_of_mem _ hw, t, List.mem_cons_self, hf.extend hcw List.prefix_rfl⟩ } h2

theorem consensusFold_inv : ∀ (ts : List (List Nat)) (seen : List (List Nat)) (s : Trunk),
    ConsInv seen s.c s.split → s.c ≠ [] → (∀ t ∈ ts, t ≠ []) →
    ConsInv (ts.reverse ++ seen) (trunkOf (consensusFold s ts)).c (trunkOf (consensusFold s ts)).split ∧
      ∀ s', consensusFold s ts = some s' → s'.c ≠ []
  | [], seen, s, hi, hs, _ => ⟨by simpa [consensusFold, trunkOf] using hi, fun s' e => by cases e; exact hs⟩
  | t :: ts, seen, s, hi, hs, hne => by
    obtain ⟨h1, h2⟩ := consensusStep_inv hi hs (hne t List.mem_cons_self)
    simp only [consensusFold]
    cases hst : consensusStep s t with
    | none =>
      -- the loop stops; the paths not looked at are comparable with `[]` all the same
      rw [hst] at h1
      obtain ⟨_, s₁, m₁, s₂, m₂, hf⟩ := h1.fork rfl
      exact ⟨{ chain := fun hsp => by cases hsp
               fork := fun _ => ⟨fun _ _ => Or.inr List.nil_prefix, s₁, by simp [List.mem_cons.1 m₁],
                 s₂, by simp [List.mem_cons.1 m₂], hf⟩ }, fun _ e => by cases e⟩
    | some s1 =>
      rw [hst] at h1
      have := consensusFold_inv ts (t :: seen) s1 h1 (h2 s1 hst)
        (fun x hx => hne x (List.mem_cons_of_mem _ hx))
      simpa using this

theorem consensusPaths_snd (T : List (List Nat)) :
    (consensusPaths T).2 = match (consensusPaths T).1 with
      | none => T
      | some c => T.filter (fun x => !isPrefix x c) := by
  cases T with
  | nil => rfl
  | cons t ts =>
    simp only [consensusPaths]
    cases consensusFold { c := t, split := false } ts <;> rfl

/-- A run on a non-empty input ends in a state satisfying the invariant for the whole input; the state of a
failed run is a fork at `[]`. -/
theorem consensusPaths_inv (T : List (List Nat)) (hne : ∀ t ∈ T, t ≠ []) (hT : T ≠ []) :
    ∃ c split, ConsInv T c split ∧ (consensusPaths T).1 = if c = [] then none else some c := by
  cases T with
  | nil => exact absurd rfl hT
  | cons t ts =>
    obtain ⟨h1, h2⟩ := consensusFold_inv ts [t] { c := t, split := false } (ConsInv.init t)
      (hne t List.mem_cons_self) (fun x hx => hne x (List.mem_cons_of_mem _ hx))
    have h1 := h1.congr (B := t :: ts) (by intro x; simp [or_comm])
    simp only [consensusPaths]
    cases hf : consensusFold { c := t, split := false } ts with
    | none => rw [hf] at h1; exact ⟨[], true, h1, rfl⟩
    | some s' => rw [hf] at h1; exact ⟨s'.c, s'.split, h1, (if_neg (h2 s' hf)).symm⟩

theorem consensusPaths_some (T : List (List Nat)) (hne : ∀ t ∈ T, t ≠ []) (c : List Nat)
    (h : (consensusPaths T).1 = some c) : c ≠ [] ∧ ∃ split, ConsInv T c split := by
  have hT : T ≠ [] := fun h0 => by rw [h0] at h; cases h
  obtain ⟨c', split, hi, e⟩ := consensusPaths_inv T hne hT
  by_cases hc : c' = []
  · rw [e, if_pos hc] at h
    cases h
  · rw [e, if_neg hc] at h
    cases h
    exact ⟨hc, split, hi⟩

theorem mem_maximalPaths {T : List (List Nat)} {m : List Nat} :
    m ∈ maximalPaths T ↔ m ∈ T ∧ ∀ s ∈ T, m <+: s → s.length ≤ m.length := by
  unfold maximalPaths
  simp only [List.mem_filter, Bool.not_eq_true', List.any_eq_false, properPrefix_iff, not_and,
    Nat.not_lt]

theorem exists_longest {α : Type} : ∀ (L : List (List α)), L ≠ [] → ∃ m ∈ L, ∀ s ∈ L, s.length ≤ m.length
  | [], h => absurd rfl h
  | [a], _ => ⟨a, List.mem_singleton.2 rfl, fun s hs => by rw [List.mem_singleton.1 hs]; exact Nat.le_refl _⟩
  | a :: b :: L, _ => by
    obtain ⟨m, hm, hmax⟩ := exists_longest (b :: L) (List.cons_ne_nil _ _)
    by_cases h : m.length ≤ a.length
    · exact ⟨a, List.mem_cons_self, List.forall_mem_cons.2 ⟨Nat.le_refl _, fun s hs => Nat.le_trans (hmax s hs) h⟩⟩
    · exact ⟨m, List.mem_cons_of_mem _ hm, List.forall_mem_cons.2 ⟨by omega, hmax⟩⟩

/-- every matched path extends to a most specific one: a longest of the matched paths above it -/
theorem exists_maximal {T : List (List Nat)} {t : List Nat} (ht : t ∈ T) :
    ∃ m ∈ maximalPaths T, t <+: m := by
  obtain ⟨m, hm, hmax⟩ := exists_longest (T.filter (isPrefix t))
    (List.ne_nil_of_mem (List.mem_filter.2 ⟨ht, (isPrefix_iff _ _).2 List.prefix_rfl⟩))
  obtain ⟨hmT, htm⟩ := List.mem_filter.1 hm
  rw [isPrefix_iff] at htm
  exact ⟨m, mem_maximalPaths.2 ⟨hmT, fun s hs hms =>
    hmax s (List.mem_filter.2 ⟨hs, (isPrefix_iff _ _).2 (htm.trans hms)⟩)⟩, htm⟩

theorem prefix_foldl_lcp {p : List Nat} : ∀ (ps : List (List Nat)) (a : List Nat),
    p <+: ps.foldl lcp a ↔ p <+: a ∧ ∀ s ∈ ps, p <+: s
  | [], a => by simp
  | b :: ps, a => by
    rw [List.foldl_cons, prefix_foldl_lcp ps (lcp a b), prefix_lcp_iff, List.forall_mem_cons, and_assoc]

theorem prefix_lcpAll {L : List (List Nat)} (hL : L ≠ []) (p : List Nat) :
    p <+: lcpAll L ↔ ∀ s ∈ L, p <+: s := by
  cases L with
  | nil => exact absurd rfl hL
  | cons a ps =>
    simp only [lcpAll, prefix_foldl_lcp, List.mem_cons, forall_eq_or_imp]

theorem lcpAll_eq_of_glb {L : List (List Nat)} (hL : L ≠ []) {c : List Nat}
    (hlb : ∀ s ∈ L, c <+: s) (hglb : ∀ p, (∀ s ∈ L, p <+: s) → p <+: c) : lcpAll L = c :=
  prefix_antisymm (hglb _ ((prefix_lcpAll hL _).1 List.prefix_rfl)) ((prefix_lcpAll hL c).2 hlb)

/-- `lcpAll` only depends on the set of members. -/
theorem lcpAll_congr {L₁ L₂ : List (List Nat)} (h : ∀ x, x ∈ L₁ ↔ x ∈ L₂) : lcpAll L₁ = lcpAll L₂ := by
  cases L₁ with
  | nil =>
    cases L₂ with
    | nil => rfl
    | cons b L₂ => exact absurd ((h b).2 List.mem_cons_self) (by simp)
  | cons a L₁ =>
    have h2 : L₂ ≠ [] := fun h0 => by
      have := (h a).1 List.mem_cons_self
      rw [h0] at this
      cases this
    apply lcpAll_eq_of_glb (by simp)
    · intro s hs
      exact (prefix_lcpAll h2 _).1 List.prefix_rfl s ((h s).1 hs)
    · intro p hp
      exact (prefix_lcpAll h2 p).2 (fun s hs => hp s ((h s).2 hs))

theorem maximalPaths_congr {T₁ T₂ : List (List Nat)} (h : ∀ x, x ∈ T₁ ↔ x ∈ T₂) (x : List Nat) :
    x ∈ maximalPaths T₁ ↔ x ∈ maximalPaths T₂ := by
  rw [mem_maximalPaths, mem_maximalPaths, h x]
  constructor
  · rintro ⟨h1, h2⟩
    exact ⟨h1, fun s hs => h2 s ((h s).2 hs)⟩
  · rintro ⟨h1, h2⟩
    exact ⟨h1, fun s hs => h2 s ((h s).1 hs)⟩

/-- The specification only depends on the set of matched paths. -/
theorem consensusSpec_congr {T₁ T₂ : List (List Nat)} (h : ∀ x, x ∈ T₁ ↔ x ∈ T₂) :
    consensusSpec T₁ = consensusSpec T₂ := by
  unfold consensusSpec
  have he : T₁.isEmpty = T₂.isEmpty := by
    rw [Bool.eq_iff_iff, List.isEmpty_iff, List.isEmpty_iff, List.eq_nil_iff_forall_not_mem,
      List.eq_nil_iff_forall_not_mem]
    exact forall_congr' fun x => not_congr (h x)
  rw [he, lcpAll_congr (maximalPaths_congr h)]

theorem consensusSpec_of_inv {T : List (List Nat)} {c : List Nat} {split : Bool}
    (hi : ConsInv T c split) : consensusSpec T = if c = [] then none else some c := by
  obtain ⟨w, hw, hcw⟩ := hi.below
  have hT : T.isEmpty = false := List.isEmpty_eq_false_iff.2 (List.ne_nil_of_mem hw)
  obtain ⟨mw, hmw, hwm⟩ := exists_maximal hw
  have hM : maximalPaths T ≠ [] := fun h0 => by rw [h0] at hmw; cases hmw
  have hl : lcpAll (maximalPaths T) = c := by
    apply lcpAll_eq_of_glb hM
    · -- `c` is a prefix of every most specific path
      intro m hm
      obtain ⟨hmT, hmax⟩ := mem_maximalPaths.1 hm
      rcases hi.comp m hmT with hmc | hcm
      · have h1 := hmax w hw (hmc.trans hcw)
        have h2 := hcw.length_le
        have h3 := hmc.length_le
        rw [hmc.eq_of_length (by omega)]
        exact List.prefix_rfl
      · exact hcm
    · -- and the longest such
      intro p hp
      cases hsp : split with
      | false =>
        obtain ⟨hc, hall⟩ := hi.chain hsp
        exact hp c (mem_maximalPaths.2 ⟨hc, fun s hs _ => (hall s hs).length_le⟩)
      | true =>
        -- the two paths that part at `c` extend to most specific ones, which still part at `c`
        obtain ⟨_, s₁, h₁, s₂, h₂, hf⟩ := hi.fork hsp
        obtain ⟨m₁, hm₁, hsm₁⟩ := exists_maximal h₁
        obtain ⟨m₂, hm₂, hsm₂⟩ := exists_maximal h₂
        rw [← (hf.extend hsm₁ hsm₂).1]
        exact prefix_lcp (hp m₁ hm₁) (hp m₂ hm₂)
  unfold consensusSpec
  rw [hT]
  simp only [Bool.false_eq_true, if_false, hl, List.isEmpty_iff]

/-- Two non-empty matched paths with different roots: the specification is "no taxon". -/
theorem consensusSpec_none_of_heads {T : List (List Nat)} {a b : List Nat} (ha : a ∈ T) (hb : b ∈ T)
    (hane : a ≠ []) (hbne : b ≠ []) (hab : a.head? ≠ b.head?) : consensusSpec T = none := by
  obtain ⟨ma, hma, hama⟩ := exists_maximal ha
  obtain ⟨mb, hmb, hbmb⟩ := exists_maximal hb
  have hM : maximalPaths T ≠ [] := fun h0 => by rw [h0] at hma; cases hma
  have hl : lcpAll (maximalPaths T) = [] := by
    cases hl : lcpAll (maximalPaths T) with
    | nil => rfl
    | cons x l =>
      exfalso
      have hp := (prefix_lcpAll hM (lcpAll (maximalPaths T))).1 List.prefix_rfl
      have h1 := head?_eq_of_prefix (hp ma hma) (by rw [hl]; simp)
      have h2 := head?_eq_of_prefix (hp mb hmb) (by rw [hl]; simp)
      have h3 := head?_eq_of_prefix hama hane
      have h4 := head?_eq_of_prefix hbmb hbne
      apply hab
      rw [← h3, ← h4, h1, h2]
  unfold consensusSpec
  simp [hl]

end GambitV
