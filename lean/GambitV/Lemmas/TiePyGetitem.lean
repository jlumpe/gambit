import GambitV.Lemmas.PyRt
import GambitV.Lemmas.Indexing

/-!
What the translated `AdvancedIndexingMixin.__getitem__` reads of each kind of index expression (the accessors of `Py.IdxVal`), and what
the NumPy steps of its integer-array path (`astype(np.intp)`, `index < 0`, `np.add(…, where=…)`) compute on entries that passed
`_check_index`.  Used by `Lemmas/PyDispatch.lean` and by both ties of the method; nothing here mentions a generated term.
-/
namespace GambitV.TieGet
open GambitV GambitV.Py

theorem call_fuelOut {σ ρ α : Type} : (call (.fuelOut : Res α) : M σ ρ α) = .error .fuel := Py.call_fuelOut

theorem tryExcept_ok {σ ρ α : Type} (a : α) (e : Exc) (h : M σ ρ α) : tryExcept (.ok a) e h = .ok a := Py.tryExcept_ok a e h

/-! ### what `__getitem__` reads of an index: the accessors of `Py.IdxVal` on each kind of value -/

section accessors
variable (a : NdArr) (n : Nat) (sp : Bool) (asarr : Option NdArr) (i : Int) (f g h : Option (Option Int))

theorem isInt_int : IdxVal.isInt (.int i) = true := rfl
theorem getInt_int : IdxVal.getInt (.int i) = i := rfl
theorem isInt_slice : IdxVal.isInt (.slice f g h) = false := rfl
theorem isSlice_slice : IdxVal.isSlice (.slice f g h) = true := rfl
theorem sliceFields_slice : IdxVal.sliceFields (.slice f g h) = [f, g, h] := rfl
theorem isInt_nd : IdxVal.isInt (.nd a) = false := rfl
theorem isSlice_nd : IdxVal.isSlice (.nd a) = false := rfl
theorem isNd_nd : IdxVal.isNd (.nd a) = true := rfl
theorem ndim_nd : IdxVal.ndim (.nd a) = (a.ndim : Int) := rfl
theorem kind_nd : IdxVal.kind (.nd a) = a.kind := rfl
theorem ints_nd : IdxVal.ints (.nd a) = a.ints := rfl
theorem bools_nd : IdxVal.bools (.nd a) = a.bools := rfl
theorem len?_nd (h1 : a.ndim = 1) : IdxVal.len? (.nd a) = some a.len0 := by
  show (if a.ndim = 0 then none else some a.len0) = some a.len0
  rw [if_neg (by omega)]
theorem isInt_sized : IdxVal.isInt (.sized n sp asarr) = false := rfl
theorem isSlice_sized : IdxVal.isSlice (.sized n sp asarr) = false := rfl
theorem isNd_sized : IdxVal.isNd (.sized n sp asarr) = false := rfl
theorem len?_sized : IdxVal.len? (.sized n sp asarr) = some n := rfl
theorem isSpecial_sized : IdxVal.isSpecial (.sized n sp asarr) = sp := rfl
theorem asarrayFails_some : IdxVal.asarrayFails (.sized n sp (some a)) = false := rfl
theorem asarrayFails_none : IdxVal.asarrayFails (.sized n sp none) = true := rfl
theorem asarray_some : IdxVal.asarray (.sized n sp (some a)) = .nd a := rfl
theorem isInt_unsized : IdxVal.isInt .unsized = false := rfl
theorem isSlice_unsized : IdxVal.isSlice .unsized = false := rfl
theorem isNd_unsized : IdxVal.isNd .unsized = false := rfl
theorem len?_unsized : IdxVal.len? .unsized = none := rfl
theorem isNd_emptyInt : IdxVal.isNd IdxVal.emptyInt = true := rfl
theorem ndim_emptyInt : IdxVal.ndim IdxVal.emptyInt = 1 := rfl
theorem kind_emptyInt : IdxVal.kind IdxVal.emptyInt = 'i' := rfl
theorem ints_emptyInt : IdxVal.ints IdxVal.emptyInt = [] := rfl
theorem ltZero_emptyInt : IdxVal.ltZero IdxVal.emptyInt = [] := rfl

theorem isNd_astypeIntp (v : IdxVal) : IdxVal.isNd (IdxVal.astypeIntp v) = IdxVal.isNd v := by cases v <;> rfl
theorem isNd_addWhere (v : IdxVal) (k : Int) (m : List Bool) : IdxVal.isNd (IdxVal.addWhere v k m) = IdxVal.isNd v := by
  cases v <;> rfl

end accessors

attribute [py_eval] isInt_int getInt_int isInt_slice isSlice_slice sliceFields_slice isInt_nd isSlice_nd isNd_nd ndim_nd kind_nd ints_nd
  bools_nd isInt_sized isSlice_sized isNd_sized len?_sized isSpecial_sized asarrayFails_some asarrayFails_none asarray_some
  isInt_unsized isSlice_unsized isNd_unsized len?_unsized isNd_astypeIntp isNd_addWhere

/-- `np.intp` of one entry (as `IdxVal.astypeIntp` has it) -/
def intp (v : Int) : Int := if v ≥ 9223372036854775808 then v - 18446744073709551616 else v

theorem intp_small (v : Int) (h : v < 2 ^ 63) : intp v = v := by
  unfold intp
  rw [if_neg (by omega)]

theorem map_intp_small (l : List Int) (h : ∀ x ∈ l, x < 2 ^ 63) : l.map intp = l :=
  (List.map_congr_left fun x hx => intp_small x (h x hx)).trans (List.map_id l)

/-- the positions handed to `_getitem_int_array` after the NumPy steps of the integer-array path: an unsigned array is converted to
`intp`; if any entry is negative the array is converted (again) and the collection's length added at the negative entries -/
def finalInts (n : Int) (a : NdArr) : List Int :=
  IdxVal.ints
    (if (IdxVal.ltZero (if a.kind = 'u' then IdxVal.astypeIntp (.nd a) else .nd a)).any id = true then
      IdxVal.addWhere (IdxVal.astypeIntp (if a.kind = 'u' then IdxVal.astypeIntp (.nd a) else .nd a)) n
        (IdxVal.ltZero (if a.kind = 'u' then IdxVal.astypeIntp (.nd a) else .nd a))
    else (if a.kind = 'u' then IdxVal.astypeIntp (.nd a) else .nd a))

theorem ints_wrapNegative (n : Int) (b : NdArr) (h : ∀ x ∈ b.ints, x < 2 ^ 63) :
    IdxVal.ints (if (IdxVal.ltZero (.nd b)).any id = true then
        IdxVal.addWhere (IdxVal.astypeIntp (.nd b)) n (IdxVal.ltZero (.nd b)) else .nd b)
      = b.ints.map (fun x => if x < 0 then x + n else x) := by
  by_cases hany : (IdxVal.ltZero (.nd b)).any id = true
  · rw [if_pos hany]
    show List.zipWith (fun x (m : Bool) => if m then x + n else x) (b.ints.map intp) (b.ints.map (fun x => decide (x < 0))) = _
    rw [map_intp_small b.ints h, List.zipWith_map_right, List.zipWith_self]
    apply List.map_congr_left
    intro x _
    simp only [decide_eq_true_eq]
  · rw [if_neg hany]
    show b.ints = _
    have hall : ∀ x ∈ b.ints, ¬ x < 0 := by
      intro x hx hlt
      apply hany
      show (b.ints.map (fun x => decide (x < 0))).any id = true
      rw [List.any_map, List.any_eq_true]
      exact ⟨x, hx, by simpa using hlt⟩
    exact ((List.map_congr_left fun x hx => if_neg (hall x hx)).trans (List.map_id _)).symm

theorem finalInts_eq_map (n : Int) (a : NdArr) (h : ∀ x ∈ a.ints, x < 2 ^ 63) :
    finalInts n a = a.ints.map (fun x => if x < 0 then x + n else x) := by
  unfold finalInts
  by_cases hu : a.kind = 'u'
  · have key := ints_wrapNegative n { a with kind := 'i', ints := a.ints.map intp } (by
      show ∀ x ∈ a.ints.map intp, x < 2 ^ 63
      rw [map_intp_small a.ints h]; exact h)
    simp only [if_pos hu]
    refine key.trans ?_
    show (a.ints.map intp).map _ = _
    rw [map_intp_small a.ints h]
  · simp only [if_neg hu]
    exact ints_wrapNegative n a h

/-- on entries that passed `_check_index`, of a collection shorter than 2^63, the NumPy steps compute the wrapped positions -/
theorem finalInts_eq (n : Nat) (a : NdArr) (hn : n < 2 ^ 63) (js : List Nat) (h : normIndices n a.ints = .ok js) :
    finalInts (n : Int) a = js.map (fun (j : Nat) => (j : Int)) := by
  obtain ⟨hr, rfl⟩ := normIndices_of_ok h
  rw [finalInts_eq_map (n : Int) a (fun x hx => by have := (hr x hx).2; omega), List.map_map]
  apply List.map_congr_left
  intro x hx
  exact (natCast_wrapIdx (hr x hx).1).symm

/-- the outcome of a step that only performs a check: raise `e` if the check failed, continue with `a` otherwise -/
def chkOut {σ ρ ε β γ : Type} (r : Except ε β) (a : γ) (e : Exc) : M σ ρ γ :=
  match r with
  | .ok _ => .ok a
  | .error _ => .error (.exc e)

@[simp] theorem chkOut_ok {σ ρ ε β γ : Type} (b : β) (a : γ) (e : Exc) : (chkOut (.ok b : Except ε β) a e : M σ ρ γ) = .ok a := rfl
@[simp] theorem chkOut_error {σ ρ ε β γ : Type} (err : ε) (a : γ) (e : Exc) :
    (chkOut (.error err : Except ε β) a e : M σ ρ γ) = .error (.exc e) := rfl

end GambitV.TieGet
