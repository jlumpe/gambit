import Lean.Meta.Tactic.Simp.RegisterCommand

/-- The simp set that runs a generated body, `simp only [py_eval, …]`.  Tagged in `Lemmas/PyRt.lean`: `ok_bind`, `error_bind`, `pure_eq`,
`throw_eq` (the monad of `Py.M` on constructor forms), `guard_false/true`, `call_ok/raised/fuelOut`, `finish_ok/ret/exc/fuel`,
`tryExcept_ok/same/other`, `forEach_nil`, `decide_natCast_neg`, and `if_true`, `if_false`, `Bool.false_eq_true`, `Bool.not_true/false`,
`Option.isNone_some/none`, `Option.getD_some`.  Other modules add the evaluation lemmas of their own notions (`Lemmas/TiePyGetitem.lean`
those of `Py.IdxVal`): grep `py_eval]`. -/
register_simp_attr py_eval
