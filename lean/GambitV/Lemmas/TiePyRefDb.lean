import GambitV.Lemmas.PyRt
import GambitV.Model.RefDb

/-!
Helper lemmas for the tie of the translated `gambit/db/refdb.py` functions (`GambitV.Tie.PyRefDb`).  Nothing here
mentions the generated term: the list of `(genome, ID)` pairs when every genome has an ID, the dictionary built from
the swapped pairs (`dictFromPairs`, the last pair with a given key wins; with unique IDs a lookup is `idxOf?`), and the
entries of `Py.enumerate` that hold a genome against the model's `matchIds`.
-/
namespace GambitV.TieRefDb
open GambitV GambitV.Py

/-! ### the `(genome, ID)` pairs -/

/-- with every ID present, the pairs `[(g, g.id) for g in genomes]` (genome indices shifted by `k`), swapped, are `zipIdx` -/
theorem pairs_off (ids : List Nat) (k : Nat) :
    (List.range (ids.map some).length).filterMap (fun g => ((ids.map some).getD g none).map (fun i => (g + k, i)))
      = (ids.zipIdx k).map (fun x => (x.2, x.1)) := by
  induction ids generalizing k with
  | nil => rfl
  | cons a ids ih =>
    rw [List.map_cons, List.length_cons, List.range_succ_eq_map, List.filterMap_cons, List.filterMap_map]
    simp only [List.getD_cons_zero, Option.map_some, Nat.zero_add, List.zipIdx_cons, List.map_cons]
    congr 1
    rw [← ih (k + 1)]
    congr 1
    funext g
    simp only [Function.comp, Nat.succ_eq_add_one, List.getD_cons_succ, Nat.add_right_comm g 1 k, Nat.add_assoc]

/-- the argument of `dictFromPairs` in `_map_ids_to_genomes` when every genome has an ID -/
theorem swapped_pairs (ids : List Nat) :
    ((List.range (ids.map some).length).filterMap (fun g => ((ids.map some).getD g none).map (fun i => (g, i)))).map
        (fun p => (p.2, p.1)) = ids.zipIdx := by
  have h := pairs_off ids 0
  simp only [Nat.add_zero] at h
  rw [h, List.map_map]
  exact List.map_id _

theorem map_some_filterMap_id (gids : List (Option Nat)) (h : gids.any (·.isNone) = false) :
    (gids.filterMap id).map some = gids := by
  induction gids with
  | nil => rfl
  | cons a gids ih =>
    rw [List.any_cons, Bool.or_eq_false_iff] at h
    cases a with
    | none => simp at h
    | some a => simp only [List.filterMap_cons, id, List.map_cons, ih h.2]

theorem length_filterMap_id (gids : List (Option Nat)) (h : gids.any (·.isNone) = false) :
    (gids.filterMap id).length = gids.length := by
  have := congrArg List.length (map_some_filterMap_id gids h)
  simpa using this

/-- `len([g for g in genomes if g.id is None]) > 0` -/
theorem count_none_pos (gids : List (Option Nat)) :
    decide ((((gids.filter (·.isNone)).length : Nat) : Int) > 0) = gids.any (·.isNone) := by
  rw [Bool.eq_iff_iff, decide_eq_true_iff, List.any_eq_true, ← List.length_filter_pos_iff]
  show (0 : Int) < _ ↔ _
  rw [Int.natCast_pos]

/-! ### the dictionary `{id: genome}` -/

theorem dictGet?_dictSet (d : List (Nat × Nat)) (k v x : Nat) :
    dictGet? (dictSet d k v) x = if k = x then some v else dictGet? d x := by
  induction d with
  | nil => simp [dictSet, dictGet?]
  | cons p d ih =>
    obtain ⟨k', v'⟩ := p
    by_cases h : k' = k
    · subst h
      by_cases hx : k' = x <;> simp [dictSet, dictGet?, hx]
    · by_cases hx : k' = x
      · subst hx
        have : ¬ k = k' := fun e => h e.symm
        simp [dictSet, dictGet?, h, this]
      · simp [dictSet, dictGet?, h, hx, ih]

/-- `d[x]` finds the first pair with key `x`, as `idxOf?` does -/
theorem dictGet?_zipIdx (ids : List Nat) (k x : Nat) : dictGet? (ids.zipIdx k) x = (ids.idxOf? x).map (· + k) := by
  induction ids generalizing k with
  | nil => rfl
  | cons a ids ih =>
    rw [List.zipIdx_cons, List.idxOf?_cons, dictGet?, ih]
    by_cases h : a = x
    · simp [h]
    · simp [h, Option.map_map, Function.comp_def, Nat.add_assoc, Nat.add_comm 1 k]

/-- `d[id]` / `d.get(id)` on the dictionary of `_map_ids_to_genomes`, IDs unique -/
theorem dictGet?_fromPairs (ids : List Nat) (hN : ids.Nodup) (x : Nat) :
    dictGet? (dictFromPairs ids.zipIdx) x = ids.idxOf? x := by
  rw [dictFromPairs_nodup _ (by rwa [List.zipIdx_map_fst]), dictGet?_zipIdx]
  simp

/-! ### `enumerate(genomes)` against `matchIds` -/

/-- `matchIds` with the positions shifted by `k` -/
def matchOff (k : Nat) (G S : List Nat) : List (Nat × Nat) :=
  (List.range S.length).filterMap fun p =>
    match S[p]? with
    | some id => (G.idxOf? id).map (fun g => (g, p + k))
    | none => none

theorem matchOff_zero (G S : List Nat) : matchOff 0 G S = matchIds G S := rfl

theorem matchOff_cons (k : Nat) (G : List Nat) (a : Nat) (S : List Nat) :
    matchOff k G (a :: S) = ((G.idxOf? a).map (fun g => (g, k))).toList ++ matchOff (k + 1) G S := by
  unfold matchOff
  rw [List.length_cons, List.range_succ_eq_map, List.filterMap_cons, List.filterMap_map]
  have hf : ((fun p => match (a :: S)[p]? with
        | some id => (G.idxOf? id).map (fun g => (g, p + k))
        | none => none) ∘ Nat.succ)
      = fun p => match S[p]? with
        | some id => (G.idxOf? id).map (fun g => (g, p + (k + 1)))
        | none => none := by
    funext p
    simp only [Function.comp, Nat.succ_eq_add_one, List.getElem?_cons_succ, Nat.add_right_comm p 1 k, Nat.add_assoc]
  rw [hf]
  cases h : G.idxOf? a <;> simp [h]

/-- the genomes appended by the loop of `genomes_by_id_subset` -/
theorem enumerate_genomes (G S : List Nat) (k : Nat) :
    (enumerateFrom k (S.map (fun x => G.idxOf? x))).filterMap (fun x => x.2) = (matchOff k G S).map (·.1) := by
  induction S generalizing k with
  | nil => rfl
  | cons a S ih =>
    rw [matchOff_cons, List.map_cons, enumerateFrom, List.filterMap_cons, List.map_append, ← ih (k + 1)]
    cases G.idxOf? a <;> rfl

/-- the positions appended by the loop of `genomes_by_id_subset` -/
theorem enumerate_positions (G S : List Nat) (k : Nat) :
    (enumerateFrom k (S.map (fun x => G.idxOf? x))).filterMap (fun x => x.2.map (fun _ => x.1))
      = (matchOff k G S).map (fun p => (p.2 : Int)) := by
  induction S generalizing k with
  | nil => rfl
  | cons a S ih =>
    rw [matchOff_cons, List.map_cons, enumerateFrom, List.filterMap_cons, List.map_append, ← ih (k + 1)]
    cases G.idxOf? a <;> rfl

end GambitV.TieRefDb
