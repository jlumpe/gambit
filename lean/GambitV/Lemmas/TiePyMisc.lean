import GambitV.Lemmas.PyRt
import GambitV.Lemmas.Find

/-!
For the ties of `find_kmers` / `kmer_indices` (`Tie/PyFindKmers`) to `Model/Find.lean`: `bytes.find` with the two kinds of bounds
`find_kmers` uses, and the rule for the find/restart `while` loop (`whileLoop_find_sim`: the loop is
given as an equation, as the loop rules of `Lemmas/PyRt.lean` take it; what the body does is supplied as per-iteration hypotheses in
terms of the model's `bytesFind`).
-/
namespace GambitV.Tie.Py
open GambitV

/-- `hay.find(pat, start, -k)` for `start ≥ 0`, `k ≥ 1`: the end bound is `max 0 (len - k)` (`pyEndNeg`). -/
theorem bytesFind_negStop (hay pat : List UInt8) (start k : Nat) (hk : 1 ≤ k) :
    Py.bytesFind hay pat (start : Int) (some (-(k : Int))) =
      (match GambitV.bytesFind hay pat start (pyEndNeg hay.length k) with
       | some i => (i : Int)
       | none => -1) := by
  unfold Py.bytesFind pyEndNeg
  have h1 : -(k : Int) < 0 := by omega
  have h2 : ¬ ((start : Int) < 0) := by omega
  have h3 : (-(k : Int) + (hay.length : Int)).toNat = hay.length - k := by rw [Int.add_comm]; exact Int.toNat_sub _ k
  simp only [h1, h2, h3, if_true, if_false, Int.toNat_natCast]
  cases GambitV.bytesFind hay pat start (hay.length - k) <;> rfl

/-- `hay.find(pat, start)` for `start ≥ 0`. -/
theorem bytesFind_noStop (hay pat : List UInt8) (start : Nat) :
    Py.bytesFind hay pat (start : Int) none =
      (match GambitV.bytesFind hay pat start hay.length with
       | some i => (i : Int)
       | none => -1) := by
  unfold Py.bytesFind
  have h2 : ¬ ((start : Int) < 0) := by omega
  simp only [h2, if_false, Int.toNat_natCast]
  cases GambitV.bytesFind hay pat start hay.length <;> rfl

/-! ### `while True: loc = hay.find(pat, start, stop); if loc < 0: break; yield f(loc); start = loc + 1` -/

/-- The find/restart loop.  `yl` and `st` read the list of yielded values and the `start` local off the state,
`P` is the frame (what the loop leaves alone).  The body is described by what it does when the model's
`bytesFind` from the current `start` misses (`hnone`: break, nothing yielded) or hits (`hsome`: yield `f loc`,
restart at `loc + 1`).  With more fuel than the remaining range the loop ends in a `break`, having yielded
every matching position of the range, in order. -/
theorem whileLoop_find_sim {σ ρ β : Type} {fuel : Nat} {cond : σ → Py.M σ ρ Bool} {body : σ → Py.M σ ρ σ}
    {s : σ} {w : Py.M σ ρ σ} (hw : Py.whileLoop fuel cond body s = w)
    (hay pat : List UInt8) (stop : Nat) (f : Nat → β) (yl : σ → List β) (st : σ → Int) (P : σ → Prop)
    (hcond : ∀ s, cond s = .ok true)
    (hnone : ∀ s (start : Nat), P s → st s = (start : Int) → GambitV.bytesFind hay pat start stop = none →
      ∃ s', body s = .error (.brk s') ∧ P s' ∧ yl s' = yl s)
    (hsome : ∀ s (start loc : Nat), P s → st s = (start : Int) →
      GambitV.bytesFind hay pat start stop = some loc →
      ∃ s', body s = .ok s' ∧ P s' ∧ yl s' = yl s ++ [f loc] ∧ st s' = ((loc + 1 : Nat) : Int))
    (start : Nat) (hP : P s) (hst : st s = (start : Int))
    (hfuel : stop + 1 - pat.length - start < fuel) :
    ∃ s', w = .ok s' ∧ P s' ∧
      yl s' = yl s ++ ((List.range' start (stop + 1 - pat.length - start)).filter (matchAt hay pat)).map f := by
  -- in lockstep with the model's `findLoop`, which the fuel makes the filtered range
  rw [← findLoop_eq_filter' hay pat stop fuel start (Nat.le_of_lt hfuel)]
  subst hw
  induction fuel generalizing s start with
  | zero => omega
  | succ fuel ih =>
    rw [Py.whileLoop_succ, hcond]
    cases hfind : GambitV.bytesFind hay pat start stop with
    | none =>
      obtain ⟨s', hb, hP', hy⟩ := hnone s start hP hst hfind
      rw [hb]
      exact ⟨s', rfl, hP', by simp [findLoop, hfind, hy]⟩
    | some loc =>
      obtain ⟨s', hb, hP', hy, hst'⟩ := hsome s start loc hP hst hfind
      have hbd := bytesFind_some_bounds _ _ _ _ _ hfind
      rw [hb]
      obtain ⟨s'', h1, h2, h3⟩ := ih (s := s') (loc + 1) hP' hst' (by omega)
      exact ⟨s'', h1, h2, by simp [findLoop, hfind, h3, hy]⟩

end GambitV.Tie.Py
