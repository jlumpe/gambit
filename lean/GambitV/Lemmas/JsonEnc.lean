import GambitV.Model.JsonResults
import GambitV.Lemmas.JsonAttr
import GambitV.Lemmas.ListAux

/-!
For `Props/C11Json*.lean`.  The keys of `Model/Json.lean` / `Model/JsonResults.lean` are string literals turned into characters by a
private helper.  Here the definitions are restated with the helper unfolded, so that keys are visibly literals; the simp set
`json_walk` then walks records, documents and rule tables comparing keys as strings.  With it: what the encoder and the converter do
on the result objects under the two exporters, and that the documented JSON determines what it is documented to carry.  Core Lean only.
-/
namespace GambitV.Json

-- This simproc turns `"k".toList` into the list of its characters, and the kernel checks that by running the UTF-8 decoder on the
-- literal (dear, and quadratic in its length).  Keys are compared as strings instead (`lookup_cons_toList`).
attribute [-simp] String.reduceToList

/-! ### the definitions with the private string helper unfolded (all by `rfl`) -/

theorem jsonExporter_eq : jsonExporter =
  [("QueryResults".toList, .asdictExcept ["params".toList]),
   ("QueryResultItem".toList, .fields [("query".toList, .attr ["input".toList]), ("predicted_taxon".toList, .attr ["report_taxon".toList]),
        ("next_taxon".toList, .attr ["classifier_result".toList, "next_taxon".toList]),
        ("closest_genomes".toList, .attr ["closest_genomes".toList])]),
   ("QueryInput".toList, .fields [("name".toList, .attr ["label".toList]),
        ("path".toList, .noneIfNone ["file".toList] (.attr ["file".toList, "path".toList])),
        ("format".toList, .noneIfNone ["file".toList] (.attr ["file".toList, "format".toList]))]),
   ("ReferenceGenomeSet".toList, .fields [("id".toList, .attr ["id".toList]), ("key".toList, .attr ["key".toList]),
        ("version".toList, .attr ["version".toList]), ("name".toList, .attr ["name".toList]),
        ("description".toList, .attr ["description".toList])]),
   ("Taxon".toList, .fields [("id".toList, .attr ["id".toList]), ("key".toList, .attr ["key".toList]),
        ("name".toList, .attr ["name".toList]), ("ncbi_id".toList, .attr ["ncbi_id".toList]),
        ("rank".toList, .attr ["rank".toList]), ("distance_threshold".toList, .attr ["distance_threshold".toList])]),
   ("AnnotatedGenome".toList, .fields [("key".toList, .attr ["key".toList]), ("description".toList, .attr ["description".toList]),
        ("organism".toList, .attr ["organism".toList]), ("ncbi_db".toList, .attr ["ncbi_db".toList]),
        ("ncbi_id".toList, .attr ["ncbi_id".toList]), ("genbank_acc".toList, .attr ["genbank_acc".toList]),
        ("refseq_acc".toList, .attr ["refseq_acc".toList]), ("id".toList, .attr ["genome_id".toList]),
        ("taxonomy".toList, .attr ["taxon".toList, "ancestors(incself=True)".toList])])] := rfl

theorem archiveExporter_eq : archiveExporter =
  [("ReferenceGenomeSet".toList, .fields [("key".toList, .attr ["key".toList]), ("version".toList, .attr ["version".toList])]),
   ("Taxon".toList, .fields [("key".toList, .attr ["key".toList])]),
   ("AnnotatedGenome".toList, .fields [("key".toList, .attr ["key".toList])])] := rfl

theorem JTaxon.columns_eq (t : JTaxon) : t.columns =
  [("id".toList, .int t.id), ("key".toList, .str t.key), ("name".toList, .str t.name), ("ncbi_id".toList, optInt t.ncbiId),
   ("rank".toList, optStr t.rank), ("distance_threshold".toList, optFloat t.threshold)] := rfl

theorem JTaxon.toPVal_eq (t : JTaxon) : t.toPVal = .inst "Taxon".toList false t.columns := rfl

theorem JTaxon.toPValWith_eq (t : JTaxon) (l : List JTaxon) : t.toPValWith l =
  .inst "Taxon".toList false (t.columns ++ [("ancestors(incself=True)".toList, .list (l.map JTaxon.toPVal))]) := rfl

theorem JGenome.toPVal_eq (g : JGenome) : g.toPVal =
  .inst "AnnotatedGenome".toList false
    [("key".toList, .str g.key), ("description".toList, optStr g.description), ("organism".toList, optStr g.organism),
     ("ncbi_db".toList, optStr g.ncbiDb), ("ncbi_id".toList, optInt g.ncbiId), ("genbank_acc".toList, optStr g.genbankAcc),
     ("refseq_acc".toList, optStr g.refseqAcc), ("genome_id".toList, .int g.genomeId),
     ("taxon".toList, g.taxon.toPValWith g.taxonomy)] := rfl

theorem JMatch.toPVal_eq (m : JMatch) : m.toPVal =
  .inst "GenomeMatch".toList true
    [("genome".toList, m.genome.toPVal), ("distance".toList, .float m.distance), ("matched_taxon".toList, optTaxon m.matched)] := rfl

theorem JFile.toPVal_eq (f : JFile) : f.toPVal =
  .inst "SequenceFile".toList true
    [("path".toList, .hooked f.path), ("format".toList, .str f.format), ("compression".toList, optStr f.compression)] := rfl

theorem JItem.inputPVal_eq (it : JItem) : it.inputPVal =
  .inst "QueryInput".toList true [("label".toList, .str it.label), ("file".toList, optFile it.file)] := rfl

theorem JItem.resultPVal_eq (it : JItem) : it.resultPVal =
  .inst "ClassifierResult".toList true
    [("success".toList, .bool it.success), ("predicted_taxon".toList, optTaxon it.predicted), ("primary_match".toList, optMatch it.primary),
     ("closest_match".toList, it.closestMatch.toPVal), ("next_taxon".toList, optTaxon it.next),
     ("warnings".toList, .list (it.warnings.map .str)), ("error".toList, optStr it.error)] := rfl

theorem JItem.toPVal_eq (it : JItem) : it.toPVal =
  .inst "QueryResultItem".toList true
    [("input".toList, it.inputPVal), ("classifier_result".toList, it.resultPVal), ("report_taxon".toList, optTaxon it.report),
     ("closest_genomes".toList, .list (it.closest.map JMatch.toPVal))] := rfl

theorem taxonJson_eq (t : JTaxon) : taxonJson t =
  .obj [("id".toList, .int t.id), ("key".toList, .str t.key), ("name".toList, .str t.name), ("ncbi_id".toList, jInt t.ncbiId),
        ("rank".toList, jStr t.rank), ("distance_threshold".toList, jFloat t.threshold)] := rfl

theorem genomeJson_eq (g : JGenome) : genomeJson g =
  .obj [("key".toList, .str g.key), ("description".toList, jStr g.description), ("organism".toList, jStr g.organism),
        ("ncbi_db".toList, jStr g.ncbiDb), ("ncbi_id".toList, jInt g.ncbiId), ("genbank_acc".toList, jStr g.genbankAcc),
        ("refseq_acc".toList, jStr g.refseqAcc), ("id".toList, .int g.genomeId),
        ("taxonomy".toList, .arr (g.taxonomy.map taxonJson))] := rfl

theorem matchJson_eq (m : JMatch) : matchJson m =
  .obj [("genome".toList, genomeJson m.genome), ("distance".toList, .float m.distance),
        ("matched_taxon".toList, optTaxonJson m.matched)] := rfl

theorem inputJson_eq (it : JItem) : inputJson it =
  .obj [("name".toList, .str it.label),
        ("path".toList, match it.file with | some f => .str f.path | Option.none => .null),
        ("format".toList, match it.file with | some f => .str f.format | Option.none => .null)] := rfl

theorem itemJson_eq (it : JItem) : itemJson it =
  .obj [("query".toList, inputJson it), ("predicted_taxon".toList, optTaxonJson it.report), ("next_taxon".toList, optTaxonJson it.next),
        ("closest_genomes".toList, .arr (it.closest.map matchJson))] := rfl

theorem keyJson_eq (k : List Char) : keyJson k = .obj [("key".toList, .str k)] := rfl

theorem archiveMatchJson_eq (m : JMatch) : archiveMatchJson m =
  .obj [("genome".toList, keyJson m.genome.key), ("distance".toList, .float m.distance),
        ("matched_taxon".toList, optKeyJson m.matched)] := rfl

theorem archiveFileJson_some (f : JFile) : archiveFileJson (some f) =
  .obj [("path".toList, .str f.path), ("format".toList, .str f.format), ("compression".toList, jStr f.compression)] := rfl

theorem archiveFileJson_none : archiveFileJson Option.none = .null := rfl

theorem archiveItemJson_eq (it : JItem) : archiveItemJson it =
  .obj [("input".toList, .obj [("label".toList, .str it.label), ("file".toList, archiveFileJson it.file)]),
        ("classifier_result".toList,
          .obj [("success".toList, .bool it.success), ("predicted_taxon".toList, optKeyJson it.predicted),
                ("primary_match".toList, optArchiveMatchJson it.primary),
                ("closest_match".toList, archiveMatchJson it.closestMatch), ("next_taxon".toList, optKeyJson it.next),
                ("warnings".toList, .arr (it.warnings.map .str)), ("error".toList, jStr it.error)]),
        ("report_taxon".toList, optKeyJson it.report),
        ("closest_genomes".toList, .arr (it.closest.map archiveMatchJson))] := rfl

theorem encode_inst (ex : Exporter) (n : Nat) (cls : List Char) (b : Bool) (attrs : List (List Char × PVal)) :
    encode ex (n + 1) (.inst cls b attrs) = (toJson ex (.inst cls b attrs)).bind (encode ex n) := by
  simp [encode]

theorem encode_hooked (ex : Exporter) (n : Nat) (s : List Char) : encode ex (n + 1) (.hooked s) = some (.str s) := by
  simp [encode, toJson]

/-- an object that is not JSON-native is written as what `to_json` makes of it -/
theorem encode_of_toJson {ex : Exporter} {n : Nat} {v w : PVal} (h : toJson ex v = some w) : encode ex (n + 1) v = encode ex n w := by
  cases v <;> simp_all [encode, toJson]

theorem encode_optInt (ex : Exporter) (n : Nat) (o : Option Int) : encode ex n (optInt o) = some (jInt o) := by
  cases o <;> simp [optInt, jInt, encode]

theorem encode_optStr (ex : Exporter) (n : Nat) (o : Option (List Char)) : encode ex n (optStr o) = some (jStr o) := by
  cases o <;> simp [optStr, jStr, encode]

theorem encode_optFloat (ex : Exporter) (n : Nat) (o : Option Nat) : encode ex n (optFloat o) = some (jFloat o) := by
  cases o <;> simp [optFloat, jFloat, encode]

theorem encodeList_map {α : Type} (ex : Exporter) (k : Nat) (f : α → PVal) (g : α → Json)
    (h : ∀ a, encode ex k (f a) = some (g a)) (l : List α) : encodeList ex k (l.map f) = some (l.map g) := by
  induction l with
  | nil => simp [encodeList]
  | cons a l ih => simp [encodeList, h, ih]

theorem encode_list_str (ex : Exporter) (k : Nat) (l : List (List Char)) :
    encode ex k (.list (l.map .str)) = some (.arr (l.map .str)) := by
  simp [encode, encodeList_map ex k PVal.str Json.str (fun s => by simp [encode])]

theorem unstructure_inst_false (cls : List Char) (attrs : List (List Char × PVal)) :
    unstructure (.inst cls false attrs) = .inst cls false attrs := by
  simp [unstructure]

theorem unstructure_optStr (o : Option (List Char)) : unstructure (optStr o) = optStr o := by
  cases o <;> simp [optStr, unstructure]

theorem unstructure_taxon (t : JTaxon) : unstructure t.toPVal = t.toPVal := by
  rw [JTaxon.toPVal_eq, unstructure_inst_false]

theorem unstructure_optTaxon (t : Option JTaxon) : unstructure (optTaxon t) = optTaxon t := by
  cases t with
  | none => simp [optTaxon, unstructure]
  | some t => simp [optTaxon, unstructure_taxon]

theorem unstructure_genome (g : JGenome) : unstructure g.toPVal = g.toPVal := by
  rw [JGenome.toPVal_eq, unstructure_inst_false]

theorem unstructureList_eq (l : List PVal) : unstructureList l = l.map unstructure := by
  induction l with
  | nil => rfl
  | cons a l ih => simp [unstructureList, ih]

theorem unstructure_list_str (l : List (List Char)) : unstructure (.list (l.map .str)) = .list (l.map .str) := by
  simp [unstructure, unstructureList_eq]

/-- a class the exporter has no rule for goes through the converter, if it is an `attrs` class -/
theorem toJson_no_rule {ex : Exporter} {cls : List Char} (attrs : List (List Char × PVal)) (h : lookup cls ex = Option.none) :
    toJson ex (.inst cls true attrs) = some (unstructure (.inst cls true attrs)) := by
  simp [toJson, h]

theorem lookup_cons_toList {α : Type} (s t : String) (v : α) (rest : List (List Char × α)) :
    lookup t.toList ((s.toList, v) :: rest) = if s = t then some v else lookup t.toList rest := by
  simp [lookup, toList_beq]

theorem lookup_nil {α : Type} (k : List Char) : lookup k ([] : List (List Char × α)) = Option.none := rfl

attribute [json_walk] toJson evalFields JExpr.eval walk PVal.getattr? Json.get? Json.path? lookup_cons_toList lookup_nil if_true if_false
  Option.bind_some Option.map_some List.cons_append List.nil_append and_self

theorem toJson_json_taxon (t : JTaxon) : toJson jsonExporter t.toPVal = some (.dict t.columns) := by
  simp only [JTaxon.toPVal_eq, jsonExporter_eq, JTaxon.columns_eq, json_walk, String.reduceEq]

theorem toJson_json_genome (g : JGenome) : toJson jsonExporter g.toPVal = some (.dict
    [("key".toList, .str g.key), ("description".toList, optStr g.description), ("organism".toList, optStr g.organism),
     ("ncbi_db".toList, optStr g.ncbiDb), ("ncbi_id".toList, optInt g.ncbiId), ("genbank_acc".toList, optStr g.genbankAcc),
     ("refseq_acc".toList, optStr g.refseqAcc), ("id".toList, .int g.genomeId),
     ("taxonomy".toList, .list (g.taxonomy.map JTaxon.toPVal))]) := by
  simp only [JGenome.toPVal_eq, JTaxon.toPValWith_eq, jsonExporter_eq, JTaxon.columns_eq, json_walk, String.reduceEq]

theorem toJson_json_input (it : JItem) : toJson jsonExporter it.inputPVal = some (.dict
    [("name".toList, .str it.label),
     ("path".toList, match it.file with | some f => .hooked f.path | Option.none => .none),
     ("format".toList, match it.file with | some f => .str f.format | Option.none => .none)]) := by
  cases h : it.file with
  | none => simp only [JItem.inputPVal_eq, h, optFile, jsonExporter_eq, json_walk, String.reduceEq]
  | some f => simp only [JItem.inputPVal_eq, h, optFile, JFile.toPVal_eq, jsonExporter_eq, json_walk, String.reduceEq]

theorem toJson_json_item (it : JItem) : toJson jsonExporter it.toPVal = some (.dict
    [("query".toList, it.inputPVal), ("predicted_taxon".toList, optTaxon it.report), ("next_taxon".toList, optTaxon it.next),
     ("closest_genomes".toList, .list (it.closest.map JMatch.toPVal))]) := by
  simp only [JItem.toPVal_eq, JItem.resultPVal_eq, jsonExporter_eq, json_walk, String.reduceEq]

/-- `QueryResults`: all attributes but `params`, which is deleted -/
theorem toJson_json_results (v q : PVal) (rest : List (List Char × PVal)) (hrest : ∀ kv ∈ rest, kv.1 ≠ "params".toList) :
    toJson jsonExporter (.inst "QueryResults".toList true (("items".toList, v) :: ("params".toList, q) :: rest))
      = some (.dict (("items".toList, v) :: rest)) := by
  have hf : rest.filter (fun kv => !(["params".toList].contains kv.1)) = rest := by
    rw [List.filter_eq_self]
    intro kv hkv
    simpa using hrest kv hkv
  have h1 : lookup "QueryResults".toList jsonExporter = some (.asdictExcept ["params".toList]) := by
    simp only [jsonExporter_eq, json_walk, String.reduceEq]
  have h2 : (["params".toList].contains "items".toList) = false := by simp [String.toList_inj]
  have h3 : (["params".toList].contains "params".toList) = true := by simp
  simp only [toJson, h1, if_true, List.filter_cons, h2, h3, hf, Bool.not_false, Bool.not_true, Bool.false_eq_true, if_false]

theorem toJson_archive_taxon (t : JTaxon) : toJson archiveExporter t.toPVal = some (.dict [("key".toList, .str t.key)]) := by
  simp only [JTaxon.toPVal_eq, archiveExporter_eq, JTaxon.columns_eq, json_walk, String.reduceEq]

theorem toJson_archive_genome (g : JGenome) : toJson archiveExporter g.toPVal = some (.dict [("key".toList, .str g.key)]) := by
  simp only [JGenome.toPVal_eq, archiveExporter_eq, json_walk, String.reduceEq]

theorem encode_archive_taxon (n : Nat) (t : JTaxon) : encode archiveExporter (n + 1) t.toPVal = some (keyJson t.key) := by
  rw [encode_of_toJson (toJson_archive_taxon t)]
  simp [keyJson_eq, encode, encodeFields]

theorem encode_archive_optTaxon (n : Nat) (t : Option JTaxon) :
    encode archiveExporter (n + 1) (optTaxon t) = some (optKeyJson t) := by
  cases t with
  | none => simp [optTaxon, optKeyJson, encode]
  | some t => simp [optTaxon, optKeyJson, encode_archive_taxon]

theorem encode_archive_genome (n : Nat) (g : JGenome) : encode archiveExporter (n + 1) g.toPVal = some (keyJson g.key) := by
  rw [encode_of_toJson (toJson_archive_genome g)]
  simp [keyJson_eq, encode, encodeFields]

/-- a match as the converter leaves it (the genome and the taxon are not `attrs` classes and stay), written by the archive's rules -/
theorem encode_archive_unst_match (n : Nat) (m : JMatch) :
    encode archiveExporter (n + 1) (unstructure m.toPVal) = some (archiveMatchJson m) := by
  simp [JMatch.toPVal_eq, unstructure, unstructureFields, unstructure_genome, unstructure_optTaxon, archiveMatchJson_eq, encode,
    encodeFields, encode_archive_genome, encode_archive_optTaxon]

theorem encode_archive_unst_optMatch (n : Nat) (m : Option JMatch) :
    encode archiveExporter (n + 1) (unstructure (optMatch m)) = some (optArchiveMatchJson m) := by
  cases m with
  | none => simp [optMatch, optArchiveMatchJson, unstructure, encode]
  | some m => simp [optMatch, optArchiveMatchJson, encode_archive_unst_match]

theorem encode_archive_unst_optFile (n : Nat) (f : Option JFile) :
    encode archiveExporter n (unstructure (optFile f)) = some (archiveFileJson f) := by
  cases f with
  | none => simp [optFile, archiveFileJson_none, unstructure, encode]
  | some f =>
    simp [optFile, JFile.toPVal_eq, archiveFileJson_some, unstructure, unstructureFields, unstructure_optStr, encode, encodeFields,
      encode_optStr]

theorem jInt_inj {a b : Option Int} : jInt a = jInt b ↔ a = b := by
  cases a <;> cases b <;> simp [jInt]

theorem jStr_inj {a b : Option (List Char)} : jStr a = jStr b ↔ a = b := by
  cases a <;> cases b <;> simp [jStr]

theorem jFloat_inj {a b : Option Nat} : jFloat a = jFloat b ↔ a = b := by
  cases a <;> cases b <;> simp [jFloat]

theorem taxonJson_inj {a b : JTaxon} : taxonJson a = taxonJson b ↔ a = b := by
  rcases a with ⟨_, _, _, _, _, _⟩; rcases b with ⟨_, _, _, _, _, _⟩
  simp [taxonJson_eq, jInt_inj, jStr_inj, jFloat_inj]

theorem optTaxonJson_inj {a b : Option JTaxon} : optTaxonJson a = optTaxonJson b ↔ a = b := by
  cases a <;> cases b <;> simp [optTaxonJson, taxonJson_inj] <;> simp [taxonJson_eq]

/-! ### the archive's JSON determines the keys and is determined by them -/

theorem optKeyJson_inj {a b : Option JTaxon} : optKeyJson a = optKeyJson b ↔ a.map (·.key) = b.map (·.key) := by
  cases a <;> cases b <;> simp [optKeyJson, keyJson_eq]

theorem archiveMatchJson_inj {a b : JMatch} : archiveMatchJson a = archiveMatchJson b ↔ a.keys = b.keys := by
  simp [archiveMatchJson_eq, keyJson_eq, optKeyJson_inj, JMatch.keys]

theorem optArchiveMatchJson_inj {a b : Option JMatch} :
    optArchiveMatchJson a = optArchiveMatchJson b ↔ a.map JMatch.keys = b.map JMatch.keys := by
  cases a <;> cases b <;> simp [optArchiveMatchJson, archiveMatchJson_inj] <;> simp [archiveMatchJson_eq]

theorem map_eq_map_iff {α β γ : Type} {f : α → β} {g : α → γ} (h : ∀ x y, f x = f y ↔ g x = g y) :
    ∀ l l' : List α, l.map f = l'.map f ↔ l.map g = l'.map g
  | [], [] => by simp
  | [], _ :: _ => by simp
  | _ :: _, [] => by simp
  | x :: l, y :: l' => by simp [h x y, map_eq_map_iff h l l']

theorem archiveFileJson_inj {a b : Option JFile} : archiveFileJson a = archiveFileJson b ↔ a = b := by
  rcases a with _ | ⟨_, _, _⟩ <;> rcases b with _ | ⟨_, _, _⟩ <;>
    simp [archiveFileJson_none, archiveFileJson_some, jStr_inj]

theorem archiveItemJson_inj {a b : JItem} : archiveItemJson a = archiveItemJson b ↔ a.keys = b.keys := by
  simp [archiveItemJson_eq, JItem.keys, archiveFileJson_inj, optKeyJson_inj, optArchiveMatchJson_inj, archiveMatchJson_inj, jStr_inj,
    map_eq_map_iff (fun _ _ => archiveMatchJson_inj), List.map_inj_right (fun _ _ => Json.str.inj), and_assoc]

end GambitV.Json
