import GambitV.Model.SeqFiles

/-!
Sanity lemmas about the text / path built-ins of the run-time library (`Py.strStrip`, `Py.strRstripChar`, `Py.pathStr`) and the
list-file model built on them.  These functions are part of the trusted base (validated against CPython / pathlib on every run by `pyrt.strip`,
`pyrt.pathstr`); the lemmas say that they have the algebraic shape the real functions have.
-/
namespace GambitV.Py

private theorem head_dropWhile_false {α : Type} (p : α → Bool) (l : List α) (c : α) (h : (l.dropWhile p).head? = some c) : p c = false := by
  have := List.head?_dropWhile_not p l
  rw [h] at this
  exact this

private theorem dropWhile_eq_self_of_head {α : Type} (p : α → Bool) (l : List α) (h : ∀ c, l.head? = some c → p c = false) :
    l.dropWhile p = l := by
  cases l with
  | nil => rfl
  | cons a t => simp [h a rfl]

/-- dropping at the end: the result is a prefix, so a non-empty result keeps the first element -/
private theorem head_rdrop {α : Type} (p : α → Bool) (l : List α) (c : α)
    (h : ((l.reverse.dropWhile p).reverse).head? = some c) : l.head? = some c := by
  have hp : (l.reverse.dropWhile p).reverse <+: l := by
    have := List.reverse_prefix.mpr (List.dropWhile_suffix (l := l.reverse) p)
    simpa using this
  obtain ⟨t, ht⟩ := hp
  rw [← ht, List.head?_append, h]
  rfl

/-- a stripped text neither starts nor ends with white space -/
theorem strStrip_ends (s : List Char) :
    (∀ c, (strStrip s).head? = some c → isSpace c = false) ∧ (∀ c, (strStrip s).getLast? = some c → isSpace c = false) := by
  unfold strStrip
  constructor
  · intro c h
    exact head_dropWhile_false isSpace s c (head_rdrop isSpace _ c h)
  · intro c h
    rw [List.getLast?_reverse] at h
    exact head_dropWhile_false isSpace _ c h

/-- a text without white space at either end is its own stripped form -/
theorem strStrip_fixed (s : List Char) (h1 : ∀ c, s.head? = some c → isSpace c = false) (h2 : ∀ c, s.getLast? = some c → isSpace c = false) :
    strStrip s = s := by
  unfold strStrip
  rw [dropWhile_eq_self_of_head isSpace s h1, dropWhile_eq_self_of_head isSpace s.reverse (by simpa [List.head?_reverse] using h2),
    List.reverse_reverse]

private theorem splitOnChar_ne_nil (sep : Char) (l : List Char) : splitOnChar sep l ≠ [] := by
  cases l with
  | nil => simp [splitOnChar]
  | cons c cs =>
    unfold splitOnChar
    cases splitOnChar sep cs with
    | nil => simp
    | cons p ps => by_cases hc : (c == sep) = true <;> simp [hc]

private theorem splitOnChar_sep_cons (sep : Char) (rest : List Char) :
    splitOnChar sep (sep :: rest) = [] :: splitOnChar sep rest := by
  rw [splitOnChar]
  cases hr : splitOnChar sep rest with
  | nil => exact absurd hr (splitOnChar_ne_nil sep rest)
  | cons q qs => simp

/-- a prefix without separator joins the first piece of the rest -/
private theorem splitOnChar_append (sep : Char) (p rest : List Char) (h : sep ∉ p) :
    splitOnChar sep (p ++ rest) = (p ++ (splitOnChar sep rest).headD []) :: (splitOnChar sep rest).tail := by
  induction p with
  | nil =>
    rw [List.nil_append]
    cases hr : splitOnChar sep rest with
    | nil => exact absurd hr (splitOnChar_ne_nil sep rest)
    | cons q qs => rfl
  | cons c cs ih =>
    have hc : (c == sep) = false := beq_false_of_ne fun e => h (by simp [e])
    rw [List.cons_append, splitOnChar, ih fun m => h (List.mem_cons_of_mem _ m)]
    simp [hc]

private theorem splitOnChar_intercalate (sep : Char) (parts : List (List Char)) (hne : parts ≠ []) (h : ∀ p ∈ parts, sep ∉ p) :
    splitOnChar sep ([sep].intercalate parts) = parts := by
  induction parts with
  | nil => exact absurd rfl hne
  | cons p ps ih =>
    cases ps with
    | nil => simpa [splitOnChar] using splitOnChar_append sep p [] (h p (by simp))
    | cons q r =>
      rw [List.intercalate_cons_cons, List.append_assoc, List.singleton_append, splitOnChar_append sep p _ (h p (by simp)),
        splitOnChar_sep_cons, ih (by simp) (fun x hx => h x (List.mem_cons_of_mem _ hx))]
      simp

private theorem intercalate_ne_nil (sep p : List Char) (ps : List (List Char)) (hp : p ≠ []) : sep.intercalate (p :: ps) ≠ [] := by
  cases ps with
  | nil => rw [List.intercalate_singleton]; exact hp
  | cons q r => rw [List.intercalate_cons_cons]; simp [hp]

theorem strStrip_idem (s : List Char) : strStrip (strStrip s) = strStrip s :=
  strStrip_fixed _ (strStrip_ends s).1 (strStrip_ends s).2

theorem strRstripChar_idem (c : Char) (s : List Char) : strRstripChar c (strRstripChar c s) = strRstripChar c s := by
  unfold strRstripChar
  rw [List.reverse_reverse, dropWhile_eq_self_of_head (· == c) _ (fun x hx => head_dropWhile_false (· == c) _ x hx)]

/-- the lines `read_lines(strip=True, skip_empty=True)` yields are non-empty and stripped, in file order (a sublist of the stripped lines) -/
theorem readLines_stripped (lines : List (List Char)) :
    (∀ l ∈ GambitV.readLines lines true true, l ≠ [] ∧ strStrip l = l)
    ∧ (GambitV.readLines lines true true).Sublist (lines.map strStrip) := by
  unfold GambitV.readLines
  simp only [if_true, Bool.true_and]
  refine ⟨?_, List.filter_sublist⟩
  intro l hl
  rw [List.mem_filter, List.mem_map] at hl
  obtain ⟨⟨x, _, rfl⟩, hne⟩ := hl
  exact ⟨by simpa using hne, strStrip_idem x⟩

/-- pathlib's normal form is never empty (`Path('')` is `.`) -/
theorem pathStr_ne_nil (s : List Char) : pathStr s ≠ [] := by
  have aux : ∀ (root : List Char) (parts : List (List Char)), (∀ p ∈ parts, p ≠ []) →
      (if root.isEmpty && parts.isEmpty then ['.'] else root ++ ['/'].intercalate parts) ≠ [] := by
    intro root parts hparts
    split
    · simp
    · rename_i hc
      intro he
      rw [List.append_eq_nil_iff] at he
      obtain ⟨hr, hb⟩ := he
      apply hc
      rw [hr]
      cases parts with
      | nil => rfl
      | cons p ps => exact absurd hb (intercalate_ne_nil _ p ps (hparts p (by simp)))
  refine aux _ _ ?_
  intro p hp
  have := (List.mem_filter.mp hp).2
  intro e; rw [e] at this; simp at this

/-- the normal form of a relative path made of ordinary components is the path itself -/
theorem pathStr_simple (parts : List (List Char)) (hne : parts ≠ [])
    (h : ∀ p ∈ parts, p ≠ [] ∧ p ≠ ['.'] ∧ '/' ∉ p) :
    pathStr (['/'].intercalate parts) = ['/'].intercalate parts := by
  obtain ⟨p, ps, rfl⟩ := List.exists_cons_of_ne_nil hne
  obtain ⟨a, t, rfl⟩ := List.exists_cons_of_ne_nil (h p (List.mem_cons_self ..)).1
  have ha : (a == '/') = false := beq_false_of_ne fun e => (h _ (List.mem_cons_self ..)).2.2 (by simp [e])
  have hfilter : ((a :: t) :: ps).filter (fun p => !p.isEmpty && p != ['.']) = (a :: t) :: ps :=
    List.filter_eq_self.2 fun q hq => by
      obtain ⟨h1, h2, _⟩ := h q hq
      cases q with
      | nil => exact absurd rfl h1
      | cons b u => simpa using h2
  -- no leading slash, so no root
  have hlead : (['/'].intercalate ((a :: t) :: ps)).takeWhile (· == '/') = [] := by
    rw [List.intercalate_cons_cons_left, List.takeWhile_cons, ha]
    rfl
  unfold pathStr
  rw [splitOnChar_intercalate '/' _ hne (fun q hq => (h q hq).2.2), hfilter, hlead]
  rfl

end GambitV.Py
