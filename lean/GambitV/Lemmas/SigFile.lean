import GambitV.Model.SigFile
import GambitV.Lemmas.Indexing

/-!
For C12 / C19 (`Model/SigFile.lean`): the per-signature slice writes fill the zero-initialised dataset with the concatenation
(invariant `foldl_writeSliceStep`), and what a kill leaves of a trace that creates the file first and closes it last
(`crashImage_append_close`).
-/
namespace GambitV

theorem cumBounds_eq_prefixSums (sigs : List (List Nat)) : cumBounds sigs = 0 :: prefixSums 0 sigs :=
  ofList_bounds sigs

theorem cumBounds_getD (sigs : List (List Nat)) (i : Nat) (h : i ≤ sigs.length) :
    (cumBounds sigs).getD i 0 = (sigs.take i).flatten.length :=
  ofList_bounds_getD sigs i h

theorem cumBounds_getLastD (sigs : List (List Nat)) :
    (cumBounds sigs).getLastD 0 = sigs.flatten.length :=
  ofList_bounds_getLastD sigs

/-- one `values[bounds[i]:bounds[i+1]] = signatures[i]` -/
def writeSliceStep (b : List Nat) (sigs : List (List Nat)) (vals : List Nat) (i : Nat) : List Nat :=
  vals.take (b.getD i 0) ++ sigs.getD i [] ++ vals.drop (b.getD i 0 + (sigs.getD i []).length)

theorem writeSlices_eq_foldl (sigs : List (List Nat)) :
    writeSlices sigs =
      (List.range sigs.length).foldl (writeSliceStep (cumBounds sigs) sigs)
        (List.replicate ((cumBounds sigs).getLastD 0) 0) := rfl

/-- Writing a signature `s` at offset `|P|` into `P ++ 0…0` gives `P ++ s ++ 0…0`. -/
theorem write_into_zeros (P s : List Nat) (k : Nat) :
    (P ++ List.replicate k 0).take P.length ++ s ++
        (P ++ List.replicate k 0).drop (P.length + s.length) =
      (P ++ s) ++ List.replicate (k - s.length) 0 := by
  rw [List.take_left, List.drop_length_add_append, List.drop_replicate]

/-- Loop invariant: after the first `m` slice writes the dataset holds the first `m` signatures,
concatenated, followed by zeros. -/
theorem foldl_writeSliceStep (sigs : List (List Nat)) (T m : Nat) (hm : m ≤ sigs.length) :
    (List.range m).foldl (writeSliceStep (cumBounds sigs) sigs) (List.replicate T 0) =
      (sigs.take m).flatten ++ List.replicate (T - (sigs.take m).flatten.length) 0 := by
  refine foldl_range_inv (fun k vals => vals = (sigs.take k).flatten ++ List.replicate (T - (sigs.take k).flatten.length) 0)
    _ _ m (by simp) fun k vals hk hv => ?_
  have hk' : k < sigs.length := Nat.lt_of_lt_of_le hk hm
  subst hv
  unfold writeSliceStep
  rw [cumBounds_getD sigs k (Nat.le_of_lt hk'), ← List.getElem_eq_getD (h := hk') [], write_into_zeros,
    List.take_succ_eq_append_getElem hk', List.flatten_append]
  simp only [List.flatten_cons, List.flatten_nil, List.append_nil, List.length_append]
  congr 2
  omega

/-- everything before the final `close` -/
def writerBody (fast : Bool) (nsigs : Nat) : List WOp := (writerTrace fast nsigs).dropLast

theorem writerTrace_eq (fast : Bool) (nsigs : Nat) :
    writerTrace fast nsigs = writerBody fast nsigs ++ [.close] := by
  rw [writerBody, writerTrace, List.dropLast_concat]

theorem close_not_mem_writerBody (fast : Bool) (nsigs : Nat) : WOp.close ∉ writerBody fast nsigs := by
  rw [writerBody, writerTrace, List.dropLast_concat]
  cases fast <;> simp [attrNames]

theorem flush_not_mem_writerBody (fast : Bool) (nsigs : Nat) : WOp.flush ∉ writerBody fast nsigs := by
  rw [writerBody, writerTrace, List.dropLast_concat]
  cases fast <;> simp [attrNames]

/-- relative to the body; the closed form (14, or 16 + `nsigs`) is `C19.writerTrace_length_eq` -/
theorem writerTrace_length (fast : Bool) (nsigs : Nat) :
    (writerTrace fast nsigs).length = (writerBody fast nsigs).length + 1 := by
  rw [writerTrace_eq, List.length_append]; rfl

/-- The image left by a kill after `n` calls of a trace that starts by creating the file and closes once,
at the end: loadable exactly when the `close` has completed.  (Whether the trace flushes in between plays
no role: in this model a flushed, unclosed file is as unopenable as an unflushed one.) -/
theorem crashImage_append_close (body : List WOp) (hhead : body.head? = some .createFile)
    (hc : WOp.close ∉ body) (full : SigStore) (n : Nat) :
    crashImage (body ++ [WOp.close]) full n =
      if body.length < n then .hdf5 full else if n = 0 then .notHdf5 else .unopenable := by
  unfold crashImage
  by_cases hn : body.length < n
  · have : (body ++ [WOp.close]).take n = body ++ [WOp.close] :=
      List.take_of_length_le (by rw [List.length_append]; exact hn)
    simp [this, hn]
  · rw [List.take_append_of_le_length (by omega)]
    have hclose : (body.take n).contains WOp.close = false := by
      rw [List.contains_eq_mem]
      exact decide_eq_false fun h => hc (List.mem_of_mem_take h)
    simp only [hclose, hn, Bool.false_eq_true, if_false]
    cases n with
    | zero => rfl
    | succ n =>
      cases body with
      | nil => cases hhead
      | cons op rest => cases hhead; simp

end GambitV
