import GambitV.Spec.Taxonomy

/-!
For C03: the threshold-bearing lineage splits at the first taxon that covers the distance (prediction = head of the
upper part, next taxon = last of the lower part), and `np.argmin` as a scan invariant.  For C09: `keyLt` is a strict
total order, insertion keeps a list sorted by it, and a sorted downward-closed selection is unique.  Also what holds
of `lineage` / `path` in any forest; what needs well-formed parent pointers is in `Lemmas/Lineage.lean`.
-/
namespace GambitV

theorem length_lineageFuel_le (F : Forest) (n t : Nat) : (F.lineageFuel n t).length ≤ n := by
  induction n generalizing t with
  | zero => exact Nat.le_refl 0
  | succ n ih =>
    unfold Forest.lineageFuel
    cases F.parentOf t with
    | none => simp
    | some p => simpa using ih p

theorem length_lineage_le (F : Forest) (t : Nat) : (F.lineage t).length ≤ F.size :=
  length_lineageFuel_le F F.size t

theorem mem_path (F : Forest) (t a : Nat) : a ∈ F.path t ↔ a ∈ F.lineage t := List.mem_reverse

/-- with any fuel at all the walk starts at the node itself -/
theorem lineage_head? (F : Forest) (hpos : 0 < F.size) (t : Nat) : (F.lineage t).head? = some t := by
  unfold Forest.lineage
  obtain ⟨n, hs⟩ : ∃ n, F.size = n + 1 := ⟨F.size - 1, (Nat.sub_add_cancel hpos).symm⟩
  rw [hs]; rfl

theorem path_getLast? (F : Forest) (hpos : 0 < F.size) (t : Nat) : (F.path t).getLast? = some t := by
  unfold Forest.path
  rw [List.getLast?_reverse]; exact lineage_head? F hpos t

theorem path_ne_nil (F : Forest) (hpos : 0 < F.size) (t : Nat) : F.path t ≠ [] := fun h => by
  have := path_getLast? F hpos t
  rw [h] at this; cases this

theorem pos_of_mem_lineage {F : Forest} {t a : Nat} (h : a ∈ F.lineage t) : 0 < F.size := by
  apply Nat.pos_of_ne_zero
  intro h0
  rw [Forest.lineage, h0] at h
  cases h

/-- a taxon covers a distance iff it bears a threshold at or above it -/
theorem covers_eq_true_iff {F : Forest} {a d : Nat} : F.covers a d = true ↔ ∃ th, F.thrOf a = some th ∧ d ≤ th := by
  unfold Forest.covers
  cases F.thrOf a with
  | none => exact ⟨fun h => (nomatch h), fun ⟨_, h, _⟩ => (nomatch h)⟩
  | some th => exact ⟨fun h => ⟨th, rfl, of_decide_eq_true h⟩, fun ⟨_, h, hle⟩ => decide_eq_true (Option.some.inj h ▸ hle)⟩

theorem covers_thr_isSome {F : Forest} {a d : Nat} (h : F.covers a d = true) :
    (F.thrOf a).isSome = true := by
  obtain ⟨th, hth, _⟩ := covers_eq_true_iff.1 h
  rw [hth]; rfl

theorem covers_mono {F : Forest} {a d d' : Nat} (hd : d ≤ d') (h : F.covers a d' = true) :
    F.covers a d = true := by
  obtain ⟨th, hth, hle⟩ := covers_eq_true_iff.1 h
  exact covers_eq_true_iff.2 ⟨th, hth, Nat.le_trans hd hle⟩

theorem getD_mem {α : Type} {l : List α} {i : Nat} (h : i < l.length) (d : α) : l.getD i d ∈ l :=
  List.getElem_eq_getD (h := h) d ▸ List.getElem_mem h

/-- the test `taxon.distance_threshold is not None and d <= taxon.distance_threshold` is `covers` -/
theorem covers_eq (F : Forest) (a d : Nat) :
    ((F.thrOf a).isSome && decide (d ≤ (F.thrOf a).getD 0)) = F.covers a d := by
  unfold Forest.covers
  cases F.thrOf a <;> rfl

theorem filter_dropWhile_not {α : Type} (p : α → Bool) (xs : List α) :
    (xs.dropWhile (fun a => !p a)).filter p = xs.filter p := by
  induction xs with
  | nil => rfl
  | cons x xs ih =>
    rw [List.dropWhile_cons]
    cases hx : p x
    · simp only [Bool.not_false, if_true, ih, List.filter_cons, hx, Bool.false_eq_true, if_false]
    · simp only [Bool.not_true, Bool.false_eq_true, if_false]

/-- the first hit of a stronger predicate is at or after the first hit of a weaker one -/
theorem find?_weaken {α : Type} (q q' : α → Bool) (hq : ∀ a, q' a = true → q a = true)
    (l : List α) (p' : α) (h : l.find? q' = some p') :
    ∃ (p : α) (i j : Nat), l.find? q = some p ∧ i ≤ j ∧ l[i]? = some p ∧ l[j]? = some p' := by
  obtain ⟨hq', j, hj, rfl, -⟩ := List.find?_eq_some_iff_getElem.1 h
  cases hf : l.find? q with
  | none => exact absurd (hq _ hq') (by simpa using List.find?_eq_none.1 hf _ (List.getElem_mem hj))
  | some p =>
    -- the first hit of `q` is at `i`; `q` fails before `i` and holds at `j`
    obtain ⟨-, i, hi, rfl, hlt⟩ := List.find?_eq_some_iff_getElem.1 hf
    refine ⟨_, i, j, rfl, Nat.le_of_not_lt fun hji => ?_, List.getElem?_eq_getElem hi, List.getElem?_eq_getElem hj⟩
    simpa [hq _ hq'] using hlt j hji

/-- the thresholds filter of the specification changes nothing: a covering taxon bears a threshold -/
theorem matchingTaxon_eq_predictedSpec (F : Forest) (t d : Nat) :
    matchingTaxon F t d = predictedSpec F t d := by
  unfold predictedSpec thrLineage matchingTaxon
  rw [List.find?_filter]
  congr 1
  funext a
  cases h : F.covers a d
  · simp
  · simp [covers_thr_isSome h]

theorem predictedSpec_eq_dropWhile (F : Forest) (t d : Nat) :
    predictedSpec F t d = ((thrLineage F t).dropWhile (fun a => !F.covers a d)).head? := by
  unfold predictedSpec
  induction thrLineage F t with
  | nil => rfl
  | cons a T ih => cases hc : F.covers a d <;> simp [hc, ih]

theorem nextSpec_eq_takeWhile (F : Forest) (t d : Nat) :
    nextSpec F t d = ((thrLineage F t).takeWhile (fun a => !F.covers a d)).getLast? := by
  unfold nextSpec
  dsimp only
  induction thrLineage F t with
  | nil => rfl
  | cons a T ih =>
    cases hc : F.covers a d with
    | true => simp [List.findIdx?_cons, hc]
    | false =>
      simp only [List.findIdx?_cons, hc, List.takeWhile_cons, Bool.not_false, if_true, Bool.false_eq_true,
        if_false, List.getLast?_cons, ← ih]
      cases hf : T.findIdx? (fun a => F.covers a d) with
      | none => simp
      | some k =>
        cases k with
        | zero => simp
        | succ k =>
          obtain ⟨h, -⟩ := List.findIdx?_eq_some_iff_getElem.1 hf
          simp [List.getElem?_eq_getElem (Nat.lt_of_succ_lt h)]

/-- the loop keeps in `lo` the last threshold-bearing taxon that does not cover the distance -/
theorem nextWalk_eq_takeWhile (F : Forest) (d : Nat) (T : List Nat) (lo : Option Nat) :
    nextWalk F d T lo = ((T.takeWhile (fun a => !F.covers a d)).getLast?).or lo := by
  induction T generalizing lo with
  | nil => simp [nextWalk]
  | cons hi rest ih =>
    cases hc : F.covers hi d with
    | true => simp [nextWalk, hc]
    | false =>
      simp only [nextWalk, hc, ih, List.takeWhile_cons, Bool.not_false, if_true, List.getLast?_cons,
        Bool.false_eq_true, if_false]
      cases (rest.takeWhile (fun a => !F.covers a d)).getLast? <;> rfl

/-- the scan of `np.argmin` from position `i` on: `best = ds[bestI]` is the first minimum of `ds[0..i)` -/
theorem argminFirst_go_spec (ds : List Nat) : ∀ (xs : List Nat) (best bestI i : Nat), ds.drop i = xs → i ≤ ds.length →
    bestI < i → ds.getD bestI 0 = best → (∀ j, j < i → best ≤ ds.getD j 0) → (∀ j, j < bestI → best < ds.getD j 0) →
    argminFirst.go best bestI i xs < ds.length ∧
      (∀ j, j < ds.length → ds.getD (argminFirst.go best bestI i xs) 0 ≤ ds.getD j 0) ∧
      (∀ j, j < argminFirst.go best bestI i xs → ds.getD (argminFirst.go best bestI i xs) 0 < ds.getD j 0)
  | [], best, bestI, i, h, hi, h1, h2, h3, h4 => by
    have : ds.length ≤ i := List.drop_eq_nil_iff.1 h
    rw [argminFirst.go, h2]
    exact ⟨Nat.lt_of_lt_of_le h1 hi, fun j hj => h3 j (Nat.lt_of_lt_of_le hj this), h4⟩
  | x :: xs, best, bestI, i, h, _, h1, h2, h3, h4 => by
    have hi : i < ds.length := by
      have := congrArg List.length h
      rw [List.length_drop, List.length_cons] at this
      exact Nat.lt_of_sub_pos (this ▸ Nat.succ_pos _)
    rw [List.drop_eq_getElem_cons hi] at h
    have hx : ds.getD i 0 = x := (List.getElem_eq_getD 0).symm.trans (List.cons.inj h).1
    rw [argminFirst.go]
    by_cases hlt : x < best
    · rw [if_pos hlt]
      refine argminFirst_go_spec ds xs x i (i + 1) (List.cons.inj h).2 hi (Nat.lt_succ_self i) hx
        (fun j hj => ?_) (fun j hj => Nat.lt_of_lt_of_le hlt (h3 j hj))
      rcases Nat.lt_succ_iff_lt_or_eq.1 hj with hj | rfl
      · exact Nat.le_of_lt (Nat.lt_of_lt_of_le hlt (h3 j hj))
      · exact Nat.le_of_eq hx.symm
    · rw [if_neg hlt]
      refine argminFirst_go_spec ds xs best bestI (i + 1) (List.cons.inj h).2 hi (Nat.lt_succ_of_lt h1) h2
        (fun j hj => ?_) h4
      rcases Nat.lt_succ_iff_lt_or_eq.1 hj with hj | rfl
      · exact h3 j hj
      · exact hx ▸ Nat.le_of_not_lt hlt

/-- `np.argmin`: a position of the minimum, and the first such -/
theorem argminFirst_getD_spec (ds : List Nat) (h : ds ≠ []) :
    argminFirst ds < ds.length ∧ (∀ x ∈ ds, ds.getD (argminFirst ds) 0 ≤ x) ∧
      (∀ j, j < argminFirst ds → ds.getD (argminFirst ds) 0 < ds.getD j 0) := by
  cases ds with
  | nil => exact absurd rfl h
  | cons d ds =>
    obtain ⟨h1, h2, h3⟩ := argminFirst_go_spec (d :: ds) ds d 0 1 rfl (by simp) Nat.zero_lt_one rfl
      (fun j hj => by rw [Nat.lt_one_iff.1 hj]; exact Nat.le_refl _) (fun j hj => absurd hj (Nat.not_lt_zero j))
    refine ⟨h1, fun x hx => ?_, h3⟩
    obtain ⟨j, hj, rfl⟩ := List.mem_iff_getElem.1 hx
    exact List.getElem_eq_getD (h := hj) 0 ▸ h2 j hj

theorem classifyDefault_closest (F : Forest) (gtax ds : List Nat) :
    (classifyDefault F gtax ds).closest = argminFirst ds := rfl

theorem keyLt_iff {ds : List Nat} {i j : Nat} :
    keyLt ds i j = true ↔ ds.getD i 0 < ds.getD j 0 ∨ ds.getD i 0 = ds.getD j 0 ∧ i < j := by
  simp only [keyLt, Bool.or_eq_true, decide_eq_true_eq, Bool.and_eq_true, beq_iff_eq]

theorem keyLt_irrefl (ds : List Nat) (i : Nat) : keyLt ds i i = false := by
  rw [Bool.eq_false_iff, Ne, keyLt_iff]
  omega

theorem keyLt_asymm {ds : List Nat} {i j : Nat} (h : keyLt ds i j = true) : keyLt ds j i = false := by
  rw [Bool.eq_false_iff, Ne, keyLt_iff]
  rw [keyLt_iff] at h
  omega

theorem keyLt_trans {ds : List Nat} {i j k : Nat} (h1 : keyLt ds i j = true) (h2 : keyLt ds j k = true) :
    keyLt ds i k = true := by
  rw [keyLt_iff] at h1 h2 ⊢
  omega

theorem keyLt_total (ds : List Nat) {i j : Nat} (h : i ≠ j) : keyLt ds i j = true ∨ keyLt ds j i = true := by
  rw [keyLt_iff, keyLt_iff]
  omega

theorem keyLt_of_le_of_lt {ds : List Nat} {i j : Nat} (h1 : ds.getD i 0 ≤ ds.getD j 0) (h2 : i < j) :
    keyLt ds i j = true := by
  rw [keyLt_iff]
  omega

theorem keyLt_of_lt {ds : List Nat} {i j : Nat} (h1 : ds.getD i 0 < ds.getD j 0) :
    keyLt ds i j = true :=
  keyLt_iff.2 (Or.inl h1)

theorem keyLt_le {ds : List Nat} {i j : Nat} (h : keyLt ds i j = true) : ds.getD i 0 ≤ ds.getD j 0 := by
  rw [keyLt_iff] at h
  omega

theorem insertByDist_perm (ds : List Nat) (i : Nat) (l : List Nat) :
    (insertByDist ds i l).Perm (i :: l) := by
  induction l with
  | nil => exact List.Perm.refl _
  | cons j js ih =>
    simp only [insertByDist]
    split
    · exact List.Perm.refl _
    · exact (List.Perm.cons j ih).trans (List.Perm.swap i j js)

theorem insertByDist_sorted (ds : List Nat) (i : Nat) (l : List Nat)
    (hgt : ∀ j ∈ l, i < j) (hs : l.Pairwise (fun a b => keyLt ds a b = true)) :
    (insertByDist ds i l).Pairwise (fun a b => keyLt ds a b = true) := by
  induction l with
  | nil => simp [insertByDist]
  | cons j js ih =>
    have hs' := List.pairwise_cons.mp hs
    simp only [insertByDist]
    split
    · rename_i hle
      refine List.pairwise_cons.mpr ⟨?_, hs⟩
      intro x hx
      rcases List.mem_cons.mp hx with rfl | hx'
      · exact keyLt_of_le_of_lt hle (hgt _ (List.mem_cons_self))
      · exact keyLt_of_le_of_lt (Nat.le_trans hle (keyLt_le (hs'.1 x hx'))) (hgt _ hx)
    · rename_i hle
      refine List.pairwise_cons.mpr ⟨?_, ih (fun x hx => hgt x (List.mem_cons_of_mem _ hx)) hs'.2⟩
      intro x hx
      rcases List.mem_cons.mp ((insertByDist_perm ds i js).mem_iff.mp hx) with rfl | hx'
      · exact keyLt_of_lt (Nat.lt_of_not_le hle)
      · exact hs'.1 x hx'

theorem foldr_insert_perm (ds : List Nat) (idx : List Nat) :
    (idx.foldr (insertByDist ds) []).Perm idx := by
  induction idx with
  | nil => exact List.Perm.refl _
  | cons i rest ih =>
    simp only [List.foldr_cons]
    exact (insertByDist_perm ds i _).trans (List.Perm.cons i ih)

theorem foldr_insert_sorted (ds : List Nat) (idx : List Nat) (h : idx.Pairwise (· < ·)) :
    (idx.foldr (insertByDist ds) []).Pairwise (fun a b => keyLt ds a b = true) := by
  induction idx with
  | nil => simp
  | cons i rest ih =>
    have h' := List.pairwise_cons.mp h
    simp only [List.foldr_cons]
    refine insertByDist_sorted ds i _ ?_ (ih h'.2)
    intro j hj
    exact h'.1 j ((foldr_insert_perm ds rest).mem_iff.mp hj)

/-- Were `j` in one list and not in the other, the other would lie below `j` and inside the first, which then
is longer. -/
theorem sorted_closed_unique (ds : List Nat) :
    ∀ (L L' : List Nat) (P : Nat → Prop), L.length = L'.length →
      (∀ i ∈ L, P i) → (∀ i ∈ L', P i) →
      L.Pairwise (fun a b => keyLt ds a b = true) → L'.Pairwise (fun a b => keyLt ds a b = true) →
      (∀ j, P j → j ∈ L ∨ ∀ i ∈ L, keyLt ds i j = true) →
      (∀ j, P j → j ∈ L' ∨ ∀ i ∈ L', keyLt ds i j = true) → L = L' := by
  intro L L' P hlen hP hP' hs hs' hc hc'
  have nd : ∀ {l : List Nat}, l.Pairwise (fun a b => keyLt ds a b = true) → l.Nodup := fun h =>
    h.imp (fun hab e => by rw [e, keyLt_irrefl] at hab; cases hab)
  have key : ∀ (A B : List Nat), A.length = B.length → (∀ i ∈ A, P i) → (∀ i ∈ B, P i) →
      B.Pairwise (fun a b => keyLt ds a b = true) →
      (∀ j, P j → j ∈ A ∨ ∀ i ∈ A, keyLt ds i j = true) →
      (∀ j, P j → j ∈ B ∨ ∀ i ∈ B, keyLt ds i j = true) → ∀ j ∈ A, j ∈ B := by
    intro A B hl hA hB hsB hcA hcB j hj
    apply Classical.byContradiction
    intro hjB
    have hall := (hcB j (hA j hj)).resolve_left hjB
    have hsub : j :: B ⊆ A := by
      intro x hx
      rcases List.mem_cons.1 hx with rfl | hx
      · exact hj
      · refine (hcA x (hB x hx)).resolve_right (fun h => ?_)
        have := keyLt_asymm (hall x hx)
        rw [h j hj] at this
        cases this
    have := List.Nodup.length_le_of_subset (List.nodup_cons.2 ⟨hjB, nd hsB⟩) hsub
    rw [List.length_cons, hl] at this
    exact absurd this (Nat.not_succ_le_self _)
  exact List.Perm.eq_of_pairwise
    (fun a b _ _ hab hba => by
      have := keyLt_asymm hab
      rw [hba] at this
      cases this) hs hs'
    ((List.perm_ext_iff_of_nodup (nd hs) (nd hs')).2 fun a =>
      ⟨key L L' hlen hP hP' hs' hc hc' a, key L' L hlen.symm hP' hP hs hc' hc a⟩)

theorem closestOk_iff (ds : List Nat) (N : Nat) (L : List Nat) :
    closestOk ds N L = true ↔
      L.length = min N ds.length ∧ (∀ i ∈ L, i < ds.length) ∧
      L.Pairwise (fun a b => keyLt ds a b = true) ∧
      (∀ j, j < ds.length → j ∈ L ∨ ∀ i ∈ L, keyLt ds i j = true) := by
  unfold closestOk
  simp only [Bool.and_eq_true, decide_eq_true_eq, List.all_eq_true, List.mem_range, Bool.or_eq_true,
    Bool.not_eq_true', decide_eq_false_iff_not, List.contains_iff_mem]
  constructor
  · rintro ⟨⟨⟨h1, h2⟩, h3⟩, h4⟩
    refine ⟨h1, h2, ?_, h4⟩
    rw [List.pairwise_iff_getElem]
    intro a b ha hb hab
    rcases h3 a ha b hb with h | h
    · exact absurd hab h
    · simpa [List.getD_eq_getElem?_getD, ha, hb] using h
  · rintro ⟨h1, h2, h3, h4⟩
    refine ⟨⟨⟨h1, h2⟩, ?_⟩, h4⟩
    intro a ha b hb
    by_cases hab : a < b
    · right
      rw [List.pairwise_iff_getElem] at h3
      simpa [List.getD_eq_getElem?_getD, ha, hb] using h3 a b ha hb hab
    · exact Or.inl hab

end GambitV
