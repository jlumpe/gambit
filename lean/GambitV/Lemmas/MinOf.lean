/-!
The first-minimum fold: `xs.foldl (argStep lt) none` keeps the first element that no later element beats under a
strict comparison `lt`.  Its invariant `MinOf`, stated for any `lt` that is irreflexive and such that, on the elements met
(`G`), whatever does not beat `b` does not beat what beats `b` (`notLt_of_lt`).  Core Lean only.
-/
namespace GambitV

/-- one step of the fold: `p` replaces the best so far iff it is strictly better -/
def argStep {α : Type} (lt : α → α → Bool) (best : Option α) (p : α) : Option α :=
  match best with
  | none => some p
  | some b => if lt p b then some p else some b

/-- `best` is a minimum of the elements `seen` so far: it is one of them and none of them beats it -/
def MinOf {α : Type} (lt : α → α → Bool) (seen : List α) : Option α → Prop
  | none => seen = []
  | some b => b ∈ seen ∧ ∀ p ∈ seen, lt p b = false

variable {α : Type} {lt : α → α → Bool} {G : α → Prop}

theorem MinOf.step (irrefl : ∀ a, lt a a = false)
    (notLt_of_lt : ∀ a b c, G a → G b → G c → lt a b = false → lt c b = true → lt a c = false)
    {seen : List α} {best : Option α} {x : α} (hG : ∀ p ∈ seen ++ [x], G p) (h : MinOf lt seen best) :
    MinOf lt (seen ++ [x]) (argStep lt best x) := by
  cases best with
  | none =>
    cases (show seen = [] from h)
    exact ⟨by simp, by simpa using irrefl x⟩
  | some b =>
    obtain ⟨hb, hmin⟩ := h
    have hGs : ∀ p ∈ seen, G p := fun p hp => hG p (List.mem_append_left _ hp)
    have hx : G x := hG x (by simp)
    simp only [argStep]
    split
    · next hlt =>
      refine ⟨by simp, fun p hp => ?_⟩
      rcases List.mem_append.1 hp with hp | hp
      · exact notLt_of_lt p b x (hGs p hp) (hGs b hb) hx (hmin p hp) hlt
      · exact List.mem_singleton.1 hp ▸ irrefl x
    · next hlt =>
      refine ⟨List.mem_append_left _ hb, fun p hp => ?_⟩
      rcases List.mem_append.1 hp with hp | hp
      · exact hmin p hp
      · exact List.mem_singleton.1 hp ▸ (by simpa using hlt)

theorem MinOf.foldl (irrefl : ∀ a, lt a a = false)
    (notLt_of_lt : ∀ a b c, G a → G b → G c → lt a b = false → lt c b = true → lt a c = false)
    (xs : List α) {seen : List α} {best : Option α} (hG : ∀ p ∈ seen ++ xs, G p) (h : MinOf lt seen best) : MinOf lt (seen ++ xs) (xs.foldl (argStep lt) best) := by
  induction xs generalizing seen best with
  | nil => simpa using h
  | cons x xs ih =>
    rw [List.append_cons] at hG ⊢
    exact ih hG (h.step irrefl notLt_of_lt (fun p hp => hG p (List.mem_append_left _ hp)))

theorem argStep_foldl_min (irrefl : ∀ a, lt a a = false)
    (notLt_of_lt : ∀ a b c, G a → G b → G c → lt a b = false → lt c b = true → lt a c = false)
    {xs : List α} (hne : xs ≠ []) (hG : ∀ p ∈ xs, G p) :
    ∃ b ∈ xs, xs.foldl (argStep lt) none = some b ∧ ∀ p ∈ xs, lt p b = false := by
  have h : MinOf lt ([] ++ xs) (xs.foldl (argStep lt) none) := MinOf.foldl irrefl notLt_of_lt xs hG rfl
  cases hb : xs.foldl (argStep lt) none with
  | none => rw [hb] at h; exact absurd h hne
  | some b => rw [hb] at h; exact ⟨b, h.1, rfl, h.2⟩

/-- `argStep_foldl_min` for a fold whose step is `argStep` by a natural-number key, on the items mapped by `g` -/
theorem foldl_argStep_key {β : Type} (key : α → Nat) (g : β → α) {step : Option α → β → Option α}
    (hstep : ∀ acc x, step acc x = argStep (fun p b => decide (key p < key b)) acc (g x))
    {xs : List β} (hne : xs ≠ []) :
    ∃ x ∈ xs, xs.foldl step none = some (g x) ∧ ∀ y ∈ xs, key (g x) ≤ key (g y) := by
  obtain ⟨b, hb, hfold, hmin⟩ := argStep_foldl_min (lt := fun p b => decide (key p < key b)) (G := fun _ => True)
    (fun a => decide_eq_false (Nat.lt_irrefl _))
    (fun a b c _ _ _ h1 h2 => decide_eq_false fun h =>
      of_decide_eq_false h1 (Nat.lt_trans h (of_decide_eq_true h2)))
    (xs := xs.map g) (fun h0 => hne (List.map_eq_nil_iff.1 h0)) (fun _ _ => trivial)
  obtain ⟨x, hx, rfl⟩ := List.mem_map.1 hb
  rw [List.foldl_map, ← funext fun acc => funext (hstep acc)] at hfold
  exact ⟨x, hx, hfold, fun y hy => Nat.le_of_not_lt (of_decide_eq_false (hmin _ (List.mem_map_of_mem hy)))⟩

end GambitV
