import GambitV.Lemmas.PyRt
import GambitV.Lemmas.Strict

/-!
For the tie of `find_matches` (classify.py): the list `enumerate(zip(range(n), ds))`, and the model's grouping step
`fmStep` as
`d.setdefault(k, []).append(v)` (`Py.dictAppend`) while the keys are distinct.
-/
namespace GambitV

/-- the list the generated `find_matches` iterates over -/
theorem enumerate_zip_range (ds : List Nat) (n : Nat) (h : ds.length = n) :
    Py.enumerate ((List.range n).zip ds)
      = (List.range n).map (fun (i : Nat) => ((i : Int), (i, ds.getD i 0))) := by
  rw [Py.enumerate_eq_mapIdx]
  apply List.ext_getElem
  · simp [h]
  · intro i h₁ h₂
    have hi : i < ds.length := by rw [List.length_map, List.length_range] at h₂; exact h ▸ h₂
    simp [List.getD_eq_getElem?_getD, List.getElem?_eq_getElem hi]

/-- while the keys are distinct, the model's step is `d.setdefault(k, []).append(v)` -/
theorem fmStep_eq_dictAppend (acc : List (Nat × List Nat)) (k i : Nat)
    (hnd : (acc.map (·.1)).Nodup) : fmStep acc (k, i) = Py.dictAppend acc k i := by
  unfold fmStep
  induction acc with
  | nil => rfl
  | cons e rest ih =>
    obtain ⟨k', vs⟩ := e
    rw [List.map_cons, List.nodup_cons] at hnd
    unfold Py.dictAppend
    by_cases hk : (k' == k) = true
    · have hkk : k' = k := by simpa using hk
      have hrest : rest.map (fun e => if (e.1 == k) = true then (e.1, e.2 ++ [i]) else e) = rest := by
        have : ∀ e ∈ rest, (if (e.1 == k) = true then (e.1, e.2 ++ [i]) else e) = e := by
          intro e he
          have hne : ¬ (e.1 == k) = true := by
            intro h
            have : e.1 = k := by simpa using h
            exact hnd.1 (by rw [hkk, ← this]; exact List.mem_map.2 ⟨e, he, rfl⟩)
          simp only [hne, if_false, Bool.false_eq_true]
        rw [List.map_congr_left this, List.map_id']
      simp only [List.any_cons, hk, Bool.true_or, if_true, List.map_cons, hrest]
    · have ih' := ih hnd.2
      simp only [List.any_cons, hk, Bool.false_or, List.map_cons, if_false, Bool.false_eq_true,
        List.cons_append] at ih' ⊢
      rw [← ih']
      by_cases ha : rest.any (fun e => e.1 == k) = true
      · simp only [ha, if_true]
      · simp only [ha, if_false, Bool.false_eq_true]

theorem dictAppend_map {ν ν' : Type} (f : ν → ν') (acc : List (Nat × List ν)) (k : Nat) (v : ν) :
    Py.dictAppend (acc.map (fun e => (e.1, e.2.map f))) k (f v)
      = (Py.dictAppend acc k v).map (fun e => (e.1, e.2.map f)) := by
  induction acc with
  | nil => rfl
  | cons e rest ih =>
    obtain ⟨k', vs⟩ := e
    rw [List.map_cons]
    unfold Py.dictAppend
    by_cases hk : (k' == k) = true
    · simp only [hk, if_true, List.map_cons, List.map_append, List.map_nil]
    · simp only [hk, if_false, List.map_cons, Bool.false_eq_true, ih]

theorem findMatches_eq_dictFold (F : Forest) (gtax ds : List Nat) :
    findMatches F gtax ds = (List.range gtax.length).foldl (fun acc i =>
      match matchingTaxon F (gtax.getD i 0) (ds.getD i 0) with
      | some t => Py.dictAppend acc t i
      | none => acc) [] := by
  suffices H : ∀ (l : List Nat) (acc : List (Nat × List Nat)), (acc.map (·.1)).Nodup →
      (l.filterMap (fun i =>
        (matchingTaxon F (gtax.getD i 0) (ds.getD i 0)).map (fun t => (t, i)))).foldl fmStep acc
      = l.foldl (fun acc i =>
        match matchingTaxon F (gtax.getD i 0) (ds.getD i 0) with
        | some t => Py.dictAppend acc t i
        | none => acc) acc from H _ [] List.nodup_nil
  intro l
  induction l with
  | nil => intro acc _; rfl
  | cons i l ih =>
    intro acc hnd
    rw [List.foldl_cons, List.filterMap_cons]
    cases hm : matchingTaxon F (gtax.getD i 0) (ds.getD i 0) with
    | none => exact ih acc hnd
    | some t =>
      simp only [Option.map_some, List.foldl_cons]
      rw [fmStep_eq_dictAppend acc t i hnd]
      exact ih _ (fmStep_eq_dictAppend acc t i hnd ▸ fmStep_keys_nodup acc (t, i) hnd)

end GambitV
