import GambitV.Model.Fasta
import GambitV.Spec.Signature
import GambitV.Lemmas.Find

/-! For `Props/C06`: what one contig contributes to `SpecMem` (`PairMem`) and its invariance under reverse complement
and case; and the FASTA writer/reader pair, each pass of `parseFasta` characterised on the text `renderFasta` writes.
Core Lean only. -/
namespace GambitV

/-- Membership contributed by one contig: either strand. -/
def PairMem (k : Nat) (pre s : List UInt8) (x : Nat) : Prop :=
  StrandMem k pre s x ∨ StrandMem k pre (revcomp s) x

theorem pairMem_revcomp (k : Nat) (pre s : List UInt8) (x : Nat) :
    PairMem k pre (revcomp s) x ↔ PairMem k pre s x := by
  unfold PairMem
  rw [C07.revcomp_involutive]
  exact Or.comm

theorem specMem_nil (k : Nat) (pre : List UInt8) (x : Nat) : ¬ SpecMem k pre [] x := by
  rintro ⟨s, hs, _⟩
  cases hs

theorem specMem_cons (k : Nat) (pre s : List UInt8) (seqs : List (List UInt8)) (x : Nat) :
    SpecMem k pre (s :: seqs) x ↔ PairMem k pre s x ∨ SpecMem k pre seqs x := by
  simp only [SpecMem, PairMem, List.mem_cons, or_and_right, exists_or, exists_eq_left]

theorem specMem_singleton (k : Nat) (pre s : List UInt8) (x : Nat) :
    SpecMem k pre [s] x ↔ PairMem k pre s x := by
  simp only [SpecMem, PairMem, List.mem_singleton, exists_eq_left]

theorem upper_take_drop (t : List UInt8) (a n : Nat) :
    upper ((t.drop a).take n) = ((upper t).drop a).take n := by
  simp [upper, List.map_take, List.map_drop]

/-- Strand membership only looks at the upper-cased sequence. -/
theorem strandMem_upper (k : Nat) (pre t : List UInt8) (x : Nat) :
    StrandMem k pre t x ↔
      ∃ i, matchAt (upper t) pre i = true ∧ i + pre.length + k ≤ (upper t).length ∧
        encode (((upper t).drop (i + pre.length)).take k) = some x := by
  unfold StrandMem
  simp only [← upper_take_drop, C07.encode_upper, upper_length]

theorem strandMem_case (k : Nat) (pre t t' : List UInt8) (x : Nat) (h : upper t = upper t') :
    StrandMem k pre t x ↔ StrandMem k pre t' x := by
  rw [strandMem_upper, strandMem_upper, h]

theorem pairMem_case (k : Nat) (pre t t' : List UInt8) (x : Nat) (h : upper t = upper t') :
    PairMem k pre t x ↔ PairMem k pre t' x := by
  unfold PairMem
  rw [strandMem_case k pre t t' x h,
    strandMem_case k pre (revcomp t) (revcomp t') x (by rw [upper_revcomp, upper_revcomp, h])]

/-! ### FASTA writer and reader

The rendered text is `init.flatMap (· ++ eol) ++ last`, with or without a final `eol`: every line but the last is
followed by the line ending.  `universalNewlines`, `splitLines` and `fastaRecords` are characterised on text of that form. -/

/-- `eol.join(init ++ [last])`: every line but the last is followed by `eol`. -/
theorem intersperse_concat (eol : List UInt8) (init : List (List UInt8)) (last : List UInt8) :
    ((init ++ [last]).intersperse eol).flatten = init.flatMap (· ++ eol) ++ last := by
  induction init with
  | nil => simp
  | cons l init ih =>
    cases init with
    | nil => simp
    | cons l' init =>
      rw [List.cons_append, List.cons_append, List.intersperse_cons_cons, List.flatten_cons, List.flatten_cons,
        ← List.cons_append, ih]
      simp

theorem universalNewlines_crlf (rest : List UInt8) :
    universalNewlines (13 :: 10 :: rest) = 10 :: universalNewlines rest := by
  simp only [universalNewlines]

theorem universalNewlines_cons (c : UInt8) (rest : List UInt8) (hc : c ≠ 13) :
    universalNewlines (c :: rest) = c :: universalNewlines rest := by
  rw [universalNewlines.eq_def]
  split <;> simp_all

theorem universalNewlines_clean (l rest : List UInt8) (h : ∀ c ∈ l, c ≠ 13) :
    universalNewlines (l ++ rest) = l ++ universalNewlines rest := by
  induction l with
  | nil => rfl
  | cons c l ih =>
    rw [List.cons_append, universalNewlines_cons _ _ (h c (by simp)),
      ih (fun d hd => h d (by simp [hd])), List.cons_append]

theorem universalNewlines_eol (eol : List UInt8) (heol : eol = [10] ∨ eol = [13, 10]) (rest : List UInt8) :
    universalNewlines (eol ++ rest) = 10 :: universalNewlines rest := by
  rcases heol with rfl | rfl
  · exact universalNewlines_cons 10 rest (by decide)
  · exact universalNewlines_crlf rest

theorem universalNewlines_lines (eol : List UInt8) (heol : eol = [10] ∨ eol = [13, 10])
    (init : List (List UInt8)) (h : ∀ l ∈ init, ∀ c ∈ l, c ≠ 13) (T : List UInt8) :
    universalNewlines (init.flatMap (· ++ eol) ++ T) = init.flatMap (· ++ [10]) ++ universalNewlines T := by
  induction init with
  | nil => rfl
  | cons l init ih =>
    simp only [List.flatMap_cons, List.append_assoc]
    rw [universalNewlines_clean l _ (h l (by simp)), universalNewlines_eol eol heol,
      ih (fun m hm => h m (by simp [hm]))]
    rfl

/-- `splitLines` and `fastaRecords` are folds with anonymous steps; step and finish are named here
(`splitLines_eq`, `fastaRecords_eq` hold by `rfl`). -/
def splitStep (acc : List (List UInt8) × List UInt8) (c : UInt8) : List (List UInt8) × List UInt8 :=
  if c == 10 then (acc.2.reverse :: acc.1, []) else (acc.1, c :: acc.2)

def splitFin (go : List (List UInt8) × List UInt8) : List (List UInt8) :=
  (if go.2.isEmpty then go.1 else go.2.reverse :: go.1).reverse

theorem splitLines_eq (s : List UInt8) : splitLines s = splitFin (s.foldl splitStep ([], [])) := rfl

theorem splitFold_clean (l rest : List UInt8) (acc : List (List UInt8)) (cur : List UInt8)
    (h : ∀ c ∈ l, c ≠ 10) :
    (l ++ rest).foldl splitStep (acc, cur) = rest.foldl splitStep (acc, l.reverse ++ cur) := by
  induction l generalizing cur with
  | nil => rfl
  | cons c l ih =>
    have hc : c ≠ 10 := h c (by simp)
    rw [List.cons_append, List.foldl_cons]
    have : splitStep (acc, cur) c = (acc, c :: cur) := by simp [splitStep, hc]
    rw [this, ih _ (fun d hd => h d (by simp [hd]))]
    simp

theorem splitFold_nl (rest : List UInt8) (acc : List (List UInt8)) (cur : List UInt8) :
    (10 :: rest).foldl splitStep (acc, cur) = rest.foldl splitStep (cur.reverse :: acc, []) := by
  rw [List.foldl_cons]; rfl

theorem splitFold_lines (init : List (List UInt8)) (h : ∀ l ∈ init, ∀ c ∈ l, c ≠ 10) (T : List UInt8)
    (acc : List (List UInt8)) :
    (init.flatMap (· ++ [10]) ++ T).foldl splitStep (acc, []) = T.foldl splitStep (init.reverse ++ acc, []) := by
  induction init generalizing acc with
  | nil => rfl
  | cons l init ih =>
    simp only [List.flatMap_cons, List.append_assoc, List.cons_append, List.nil_append]
    rw [splitFold_clean l _ acc [] (h l (by simp)), List.append_nil, splitFold_nl, List.reverse_reverse,
      ih (fun m hm => h m (by simp [hm]))]
    simp

theorem splitLines_lines (init : List (List UInt8)) (last : List UInt8)
    (hinit : ∀ l ∈ init, ∀ c ∈ l, c ≠ 10) (hlast : ∀ c ∈ last, c ≠ 10) (hne : last ≠ []) (finalNl : Bool) :
    splitLines (init.flatMap (· ++ [10]) ++ (last ++ if finalNl then [10] else [])) = init ++ [last] := by
  rw [splitLines_eq, splitFold_lines init hinit, splitFold_clean last _ _ [] hlast]
  cases finalNl with
  | true => rw [if_pos rfl, splitFold_nl]; simp [splitFin]
  | false => simp [splitFin, hne]

def fastaStep (acc : List (List UInt8) × Option (List UInt8)) (line : List UInt8) :
    List (List UInt8) × Option (List UInt8) :=
  if line.head? == some (62 : UInt8) then
    (match acc.2 with | some cur => cur :: acc.1 | none => acc.1, some [])
  else match acc.2 with
    | some cur => (acc.1, some (cur ++ line.filter (fun c => c != 32 && c != 13)))
    | none => acc

def fastaFin (go : List (List UInt8) × Option (List UInt8)) : List (List UInt8) :=
  (match go.2 with | some cur => cur :: go.1 | none => go.1).reverse

theorem fastaRecords_eq (lines : List (List UInt8)) :
    fastaRecords lines = fastaFin (lines.foldl fastaStep ([], none)) := rfl

theorem fastaStep_title (acc : List (List UInt8)) (o : Option (List UInt8)) (name : List UInt8) :
    fastaStep (acc, o) (62 :: name) = (match o with | some cur => cur :: acc | none => acc, some []) := by
  simp [fastaStep]

theorem fastaStep_seq (acc : List (List UInt8)) (cur line : List UInt8)
    (hhead : line.head? ≠ some 62) (hclean : ∀ c ∈ line, c ≠ 32 ∧ c ≠ 13) :
    fastaStep (acc, some cur) line = (acc, some (cur ++ line)) := by
  have hf : line.filter (fun c => c != 32 && c != 13) = line :=
    List.filter_eq_self.2 fun c hc => by simp [(hclean c hc).1, (hclean c hc).2]
  have hh : (line.head? == some (62 : UInt8)) = false := by simpa using hhead
  simp only [fastaStep, hh, hf]
  rfl

theorem fasta_seqLines (cs : List (List UInt8)) (rest : List (List UInt8)) (acc : List (List UInt8))
    (cur : List UInt8)
    (h : ∀ l ∈ cs, l.head? ≠ some 62 ∧ ∀ c ∈ l, c ≠ 32 ∧ c ≠ 13) :
    (cs ++ rest).foldl fastaStep (acc, some cur) = rest.foldl fastaStep (acc, some (cur ++ cs.flatten)) := by
  induction cs generalizing cur with
  | nil => simp
  | cons l cs ih =>
    rw [List.cons_append, List.foldl_cons, fastaStep_seq acc cur l (h l (by simp)).1 (h l (by simp)).2,
      ih _ (fun m hm => h m (by simp [hm]))]
    simp

theorem chunks_flatten (width : Nat) (fuel : Nat) (s : List UInt8) (h : s.length ≤ fuel) :
    (chunks width s fuel).flatten = s := by
  induction fuel generalizing s with
  | zero =>
    have : s = [] := List.eq_nil_of_length_eq_zero (by omega)
    subst this; rfl
  | succ fuel ih =>
    rw [chunks]
    cases s with
    | nil => rfl
    | cons c s =>
      simp only [List.isEmpty_cons, Bool.false_eq_true, if_false]
      split
      · simp
      · rw [List.flatten_cons, ih _ (by simp only [List.length_drop, List.length_cons] at h ⊢; omega),
          List.take_append_drop]

theorem chunks_mem (width : Nat) (fuel : Nat) (s : List UInt8) :
    ∀ l ∈ chunks width s fuel, l ≠ [] ∧ ∀ c ∈ l, c ∈ s := by
  induction fuel generalizing s with
  | zero => intro l hl; simp [chunks] at hl
  | succ fuel ih =>
    intro l hl
    rw [chunks] at hl
    cases s with
    | nil => simp at hl
    | cons c s =>
      simp only [List.isEmpty_cons, Bool.false_eq_true, if_false] at hl
      split at hl
      · simp only [List.mem_singleton] at hl
        subst hl
        exact ⟨by simp, fun _ h => h⟩
      · rename_i hw
        rcases List.mem_cons.1 hl with e | hl
        · subst e
          refine ⟨?_, fun d hd => List.mem_of_mem_take hd⟩
          cases width with
          | zero => exact absurd rfl hw
          | succ w => simp
        · have := ih _ l hl
          exact ⟨this.1, fun d hd => List.mem_of_mem_drop (this.2 d hd)⟩

def recordLines (width : Nat) (records : List (List UInt8 × List UInt8)) : List (List UInt8) :=
  records.flatMap (fun r => (62 :: r.1) :: chunks width r.2 (r.2.length + 1))

theorem renderFasta_lines (width : Nat) (eol : List UInt8) (finalNl : Bool)
    (records : List (List UInt8 × List UInt8)) (init : List (List UInt8)) (last : List UInt8)
    (e : recordLines width records = init ++ [last]) :
    renderFasta width eol finalNl records =
      init.flatMap (· ++ eol) ++ (last ++ if finalNl then eol else []) := by
  unfold recordLines at e
  unfold renderFasta
  simp only [e, intersperse_concat]
  cases finalNl <;> simp

theorem recordLines_cons (width : Nat) (r : List UInt8 × List UInt8)
    (records : List (List UInt8 × List UInt8)) :
    recordLines width (r :: records) =
      (62 :: r.1) :: (chunks width r.2 (r.2.length + 1) ++ recordLines width records) := by
  simp [recordLines]

theorem mem_recordLines {width : Nat} {records : List (List UInt8 × List UInt8)} {l : List UInt8} :
    l ∈ recordLines width records ↔
      ∃ r ∈ records, l = 62 :: r.1 ∨ l ∈ chunks width r.2 (r.2.length + 1) := by
  simp only [recordLines, List.mem_flatMap, List.mem_cons]

theorem fasta_recordLines (width : Nat) (records : List (List UInt8 × List UInt8))
    (hseq : ∀ r ∈ records, ∀ c ∈ r.2, c ≠ 13 ∧ c ≠ 32 ∧ c ≠ 62)
    (acc : List (List UInt8)) (o : Option (List UInt8)) :
    fastaFin ((recordLines width records).foldl fastaStep (acc, o)) =
      fastaFin (acc, o) ++ records.map (·.2) := by
  induction records generalizing acc o with
  | nil => simp [recordLines]
  | cons r records ih =>
    have hr := hseq r (by simp)
    rw [recordLines_cons, List.foldl_cons, fastaStep_title, fasta_seqLines, List.nil_append,
      chunks_flatten _ _ _ (Nat.le_succ _), ih (fun q hq => hseq q (by simp [hq]))]
    · cases o <;> simp [fastaFin]
    · intro l hl
      obtain ⟨hne, hmem⟩ := chunks_mem width _ r.2 l hl
      refine ⟨?_, fun c hc => ⟨(hr c (hmem c hc)).2.1, (hr c (hmem c hc)).1⟩⟩
      cases l with
      | nil => exact absurd rfl hne
      | cons c l =>
        simp only [List.head?_cons, ne_eq, Option.some.injEq]
        exact (hr c (hmem c (by simp))).2.2

theorem recordLines_forall (width : Nat) (records : List (List UInt8 × List UInt8))
    (P : UInt8 → Prop) (h62 : P 62)
    (hname : ∀ r ∈ records, ∀ c ∈ r.1, P c) (hseq : ∀ r ∈ records, ∀ c ∈ r.2, P c) :
    ∀ l ∈ recordLines width records, ∀ c ∈ l, P c := by
  intro l hl c hc
  obtain ⟨r, hr, rfl | hl⟩ := mem_recordLines.1 hl
  · rcases List.mem_cons.1 hc with rfl | hc
    · exact h62
    · exact hname r hr c hc
  · exact hseq r hr c ((chunks_mem width _ r.2 l hl).2 c hc)

theorem recordLines_nonempty (width : Nat) (records : List (List UInt8 × List UInt8)) :
    ∀ l ∈ recordLines width records, l ≠ [] := by
  intro l hl
  obtain ⟨r, -, rfl | hl⟩ := mem_recordLines.1 hl
  · simp
  · exact (chunks_mem width _ r.2 l hl).1

end GambitV
