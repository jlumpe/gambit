import GambitV.Model.Find
import GambitV.Props.C07

/-! Facts about `Model/Find.lean` on which `Props/C01` and the Python ties rest: the find/restart loop is a filter
over positions, windows and matches under reverse complement, the wrappers on windows of at most 32 bytes, and both
accumulators as the strictly increasing list of the members.  The base facts about k-mers it uses (`revcomp_length`,
`revcomp_involutive`, `encodeRc_eq`, `encode_lt`) are stated in `Props/C07.lean`, hence the import.  Core Lean only. -/
namespace GambitV

/-! ### The find/restart loop enumerates the filtered range -/

/-- One `find?` step on a contiguous range, expressed on the filtered range. -/
theorem find?_range'_filter (p : Nat → Bool) (n start : Nat) :
    match (List.range' start n).find? p with
    | none => (List.range' start n).filter p = []
    | some loc => start ≤ loc ∧ loc < start + n ∧
        (List.range' start n).filter p = loc :: (List.range' (loc + 1) (start + n - (loc + 1))).filter p := by
  induction n generalizing start with
  | zero => simp
  | succ n ih =>
    have := ih (start + 1)
    rw [List.range'_succ, List.find?_cons, List.filter_cons]
    cases hp : p start with
    | true => simp [Nat.add_sub_add_left]
    | false =>
      simp only [Bool.false_eq_true, if_false]
      split at this
      · exact this
      · exact ⟨by omega, by omega, by rw [this.2.2, show start + 1 + n = start + (n + 1) by omega]⟩

/-- General form: enough fuel for the remaining range. -/
theorem findLoop_eq_filter' (hay pat : List UInt8) (stop fuel start : Nat)
    (hf : stop + 1 - pat.length - start ≤ fuel) :
    findLoop hay pat stop fuel start =
      (List.range' start (stop + 1 - pat.length - start)).filter (matchAt hay pat) := by
  generalize hN : stop + 1 - pat.length = N at hf ⊢
  induction fuel generalizing start with
  | zero => simp [findLoop, Nat.le_zero.1 hf]
  | succ fuel ih =>
    have key := find?_range'_filter (matchAt hay pat) (N - start) start
    simp only [findLoop, bytesFind, hN]
    split at key
    · rename_i hfind
      simp only [hfind, key]
    · rename_i loc hfind
      obtain ⟨h1, h2, h3⟩ := key
      simp only [hfind]
      rw [h3, ih (loc + 1) (by omega), show start + (N - start) = N by omega]

/-- `findLoop` does not depend on the fuel once there is enough of it. -/
theorem findLoop_fuel (hay pat : List UInt8) (stop fuel fuel' start : Nat)
    (h : stop + 1 - pat.length - start ≤ fuel) (h' : stop + 1 - pat.length - start ≤ fuel') :
    findLoop hay pat stop fuel start = findLoop hay pat stop fuel' start := by
  rw [findLoop_eq_filter' _ _ _ _ _ h, findLoop_eq_filter' _ _ _ _ _ h']

/-- a hit of `bytesFind` lies in the searched range -/
theorem bytesFind_some_bounds (hay pat : List UInt8) (start stop loc : Nat)
    (h : bytesFind hay pat start stop = some loc) :
    start ≤ loc ∧ loc < start + (stop + 1 - pat.length - start) := by
  have key := find?_range'_filter (matchAt hay pat) (stop + 1 - pat.length - start) start
  unfold bytesFind at h
  rw [h] at key
  exact ⟨key.1, key.2.1⟩

/-- The same fact under the coarser fuel bound `stop + 1 - start ≤ fuel`; `pat ≠ []` is not needed. -/
theorem findLoop_eq_filter (hay pat : List UInt8) (stop fuel start : Nat) (_hpat : pat ≠ [])
    (hf : stop + 1 - start ≤ fuel) :
    findLoop hay pat stop fuel start =
      (List.range' start (stop + 1 - pat.length - start)).filter (matchAt hay pat) := by
  apply findLoop_eq_filter'
  rw [Nat.sub_right_comm]
  exact Nat.le_trans (Nat.sub_le _ _) hf

theorem fwdMatches_eq (k : Nat) (pre hay : List UInt8) :
    fwdMatches k pre hay =
      (List.range (hay.length - k + 1 - pre.length)).filter (matchAt hay pre) := by
  unfold fwdMatches pyEndNeg
  rw [findLoop_eq_filter' _ _ _ _ _ (by omega), List.range_eq_range']
  rfl

theorem revMatches_eq (k : Nat) (pre hay : List UInt8) :
    revMatches k pre hay =
      (List.range' k (hay.length + 1 - pre.length - k)).filter (matchAt hay (revcomp pre)) := by
  unfold revMatches
  rw [findLoop_eq_filter' _ _ _ _ _ (by omega), C07.revcomp_length]

theorem haystack_length (s : List UInt8) : (haystack s).length = s.length := by
  unfold haystack upper
  split <;> simp

theorem upper_length (s : List UInt8) : (upper s).length = s.length := by simp [upper]

theorem map_upper_eq_iff (w pat : List UInt8)
    (hw : ∀ b ∈ w, (b == 97 || b == 99 || b == 103 || b == 116) = false)
    (hp : ∀ b ∈ pat, b ∈ [65, 67, 71, 84]) :
    w.map upperByte = pat ↔ w = pat := by
  induction w generalizing pat with
  | nil => simp
  | cons b w ih =>
    cases pat with
    | nil => simp
    | cons p pat =>
      simp only [List.map_cons, List.cons.injEq]
      rw [upperByte_eq_acgt_iff b (hw b (by simp)) p (hp p (by simp)),
        ih pat (fun c hc => hw c (by simp [hc])) (fun c hc => hp c (by simp [hc]))]

theorem matchAt_upper (s pat : List UInt8) (i : Nat) :
    matchAt (upper s) pat i = (((s.drop i).take pat.length).map upperByte == pat) := by
  simp [matchAt, upper]

/-! ### Windows under reverse complement

Mirrored offsets are given additively (`a + n + c = |s|`), so that no truncated subtraction appears in the statements. -/

theorem revcomp_append (s t : List UInt8) : revcomp (s ++ t) = revcomp t ++ revcomp s := by
  simp [revcomp]

theorem upper_revcomp (s : List UInt8) : upper (revcomp s) = revcomp (upper s) := by
  simp only [upper, revcomp, List.map_reverse, List.map_map]
  congr 2
  funext b
  exact upperByte_comp b

theorem revcomp_acgt (pre : List UInt8) (h : ∀ b ∈ pre, b ∈ [65, 67, 71, 84]) :
    ∀ b ∈ revcomp pre, b ∈ [65, 67, 71, 84] := by
  intro b hb
  simp only [revcomp, List.mem_reverse, List.mem_map] at hb
  obtain ⟨c, hc, rfl⟩ := hb
  exact comp_acgt c (h c hc)

/-- The reverse complement of the window `[a, a+n)` of `s` is the window of `revcomp s` at the
mirrored offset `c` (what is left of `s` after the window). -/
theorem revcomp_window (s : List UInt8) (a n c : Nat) (h : a + n + c = s.length) :
    revcomp ((s.drop a).take n) = ((revcomp s).drop c).take n := by
  have hs : s = s.take a ++ ((s.drop a).take n ++ (s.drop a).drop n) := by
    rw [List.take_append_drop, List.take_append_drop]
  have hlen : (revcomp ((s.drop a).drop n)).length = c := by
    rw [C07.revcomp_length, List.length_drop, List.length_drop]
    omega
  have hlen2 : (revcomp ((s.drop a).take n)).length = n := by
    rw [C07.revcomp_length, List.length_take, List.length_drop]
    omega
  -- reversal swaps what precedes and what follows the window
  conv => rhs; rw [hs]
  rw [revcomp_append, revcomp_append, List.append_assoc, List.drop_left' hlen, List.take_left' hlen2]

theorem revcomp_eq_iff (u v : List UInt8) : revcomp u = v ↔ u = revcomp v := by
  constructor
  · intro h; rw [← h, C07.revcomp_involutive]
  · intro h; rw [h, C07.revcomp_involutive]

/-- A match of `pre` at `i` on the reverse strand is a match of `revcomp pre` at the mirrored
position `j` on the forward strand. -/
theorem matchAt_revcomp (u pre : List UInt8) (i j : Nat) (h : i + pre.length + j = u.length) :
    matchAt (revcomp u) pre i = matchAt u (revcomp pre) j := by
  unfold matchAt
  rw [C07.revcomp_length, ← revcomp_window u j pre.length i (by omega), Bool.eq_iff_iff]
  simp only [beq_iff_eq]
  exact revcomp_eq_iff _ _

theorem fwdKmer_eq (k p : Nat) (s : List UInt8) (loc : Nat) :
    fwdKmer k p s loc = (s.drop (loc + p)).take k := by
  unfold fwdKmer pySlice
  rw [Nat.add_sub_cancel_left]

theorem revKmer_eq (k : Nat) (s : List UInt8) (loc : Nat) (h : k ≤ loc) :
    revKmer k s loc = (s.drop (loc - k)).take k := by
  unfold revKmer pySlice
  rw [Nat.sub_sub_self h]

theorem kmerToIndex_toOption (w : List UInt8) (h : w.length ≤ 32) :
    (kmerToIndex w).toOption = encode w := by
  unfold kmerToIndex
  rw [if_neg (by omega)]
  cases encode w <;> rfl

theorem kmerToIndexRc_eq (w : List UInt8) : kmerToIndexRc w = kmerToIndex (revcomp w) := by
  unfold kmerToIndexRc kmerToIndex
  rw [C07.encodeRc_eq, C07.revcomp_length]

theorem kmerToIndexRc_toOption (w : List UInt8) (h : w.length ≤ 32) :
    (kmerToIndexRc w).toOption = encode (revcomp w) := by
  rw [kmerToIndexRc_eq, kmerToIndex_toOption _ (by rw [C07.revcomp_length]; exact h)]

/-! ### Accumulators: the strictly increasing list with the given members -/

theorem mem_insertSorted (x y : Nat) (l : List Nat) : y ∈ insertSorted x l ↔ y = x ∨ y ∈ l := by
  induction l with
  | nil => simp [insertSorted]
  | cons z l ih =>
    unfold insertSorted
    split
    · simp
    · split
      · simp_all
      · simp only [List.mem_cons, ih, or_left_comm]

theorem mem_setAccumulate (l : List Nat) (y : Nat) : y ∈ setAccumulate l ↔ y ∈ l := by
  unfold setAccumulate
  induction l with
  | nil => simp
  | cons x l ih => simp only [List.foldr_cons, mem_insertSorted, ih, List.mem_cons]

theorem insertSorted_sorted (x : Nat) (l : List Nat) (h : l.Pairwise (· < ·)) :
    (insertSorted x l).Pairwise (· < ·) := by
  induction l with
  | nil => simp [insertSorted]
  | cons z l ih =>
    rw [List.pairwise_cons] at h
    unfold insertSorted
    split
    · rename_i hxz
      simp only [List.pairwise_cons, List.mem_cons, forall_eq_or_imp]
      exact ⟨⟨hxz, fun a ha => Nat.lt_trans hxz (h.1 a ha)⟩, h⟩
    · split
      · exact List.pairwise_cons.2 h
      · simp only [List.pairwise_cons, mem_insertSorted, forall_eq_or_imp]
        exact ⟨⟨by omega, h.1⟩, ih h.2⟩

theorem setAccumulate_sorted (l : List Nat) : (setAccumulate l).Pairwise (· < ·) := by
  unfold setAccumulate
  induction l with
  | nil => simp
  | cons x l ih => exact insertSorted_sorted x _ ih

theorem sorted_ext (l₁ l₂ : List Nat) (h₁ : l₁.Pairwise (· < ·)) (h₂ : l₂.Pairwise (· < ·))
    (h : ∀ x, x ∈ l₁ ↔ x ∈ l₂) : l₁ = l₂ :=
  List.Perm.eq_of_pairwise (le := (· < ·)) (fun _ _ _ _ hab hba => absurd hab (Nat.lt_asymm hba)) h₁ h₂
    ((List.perm_ext_iff_of_nodup (h₁.imp Nat.ne_of_lt) (h₂.imp Nat.ne_of_lt)).2 h)

theorem setAccumulate_congr (l₁ l₂ : List Nat) (h : ∀ x, x ∈ l₁ ↔ x ∈ l₂) :
    setAccumulate l₁ = setAccumulate l₂ := by
  apply sorted_ext _ _ (setAccumulate_sorted _) (setAccumulate_sorted _)
  intro x
  rw [mem_setAccumulate, mem_setAccumulate, h]

theorem arrayAccumulate_eq (k : Nat) (l : List Nat) (h : ∀ x ∈ l, x < 4 ^ k) :
    arrayAccumulate k l = setAccumulate l := by
  apply sorted_ext _ _ _ (setAccumulate_sorted _)
  · intro x
    rw [mem_setAccumulate]
    unfold arrayAccumulate
    simp only [List.mem_filter, List.mem_range, List.contains_iff_mem]
    constructor
    · exact fun hx => hx.2
    · exact fun hx => ⟨h x hx, hx⟩
  · unfold arrayAccumulate
    exact List.Pairwise.filter _ List.pairwise_lt_range

end GambitV
