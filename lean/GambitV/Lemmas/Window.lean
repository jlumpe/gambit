import GambitV.Lemmas.Indexing

/-!
A `SignatureArray` that is a *window* of a larger values array (`SignatureArray.from_arrays(values, bounds, …)` with bounds that neither
start at 0 nor end at `len(values)`): the layout `values[bounds[i] : bounds[i+1]]` denotes the same signatures whatever surrounds them.
Used by C12 (a file whose arrays are such a window is read back) and C20 (`window_refines_list`).
-/
namespace GambitV

/-- the window: `padL ++ concatenated signatures ++ padR`, bounds shifted by `|padL|` -/
def Concat.window (padL padR : List Nat) (sigs : List (List Nat)) : Concat :=
  { values := padL ++ sigs.flatten ++ padR
    bounds := (Concat.ofList sigs).bounds.map (· + padL.length) }

theorem window_bounds (padL padR : List Nat) (sigs : List (List Nat)) :
    (Concat.window padL padR sigs).bounds = padL.length :: prefixSums padL.length sigs := by
  unfold Concat.window
  dsimp only
  rw [ofList_bounds, List.map_cons, prefixSums_shift]
  simp

theorem window_len (padL padR : List Nat) (sigs : List (List Nat)) :
    (Concat.window padL padR sigs).len = sigs.length := by
  unfold Concat.len
  rw [window_bounds, List.length_cons, length_prefixSums]; rfl

theorem window_get (padL padR : List Nat) (sigs : List (List Nat)) (i : Nat) :
    (Concat.window padL padR sigs).get i = sigs.getD i [] := by
  unfold Concat.get
  rw [window_bounds]
  exact prefixSums_slice padL padR sigs i

theorem window_toList (padL padR : List Nat) (sigs : List (List Nat)) :
    (Concat.window padL padR sigs).toList = sigs :=
  Concat.toList_of_get (window_len padL padR sigs) (window_get padL padR sigs)

example : (Concat.window [3, 5, 8] [1, 2] [[4, 9], [], [7]]).toList = [[4, 9], [], [7]] := by decide
example : (Concat.window [3, 5, 8] [1, 2] [[4, 9], [], [7]]).bounds = [3, 5, 5, 6] := by decide

end GambitV
