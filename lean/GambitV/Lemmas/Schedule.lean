import GambitV.Model.Schedule
import GambitV.Lemmas.Bulk

/-!
For C13 (`Model/Schedule.lean`): the completion loop `collect` is `mapM` over the completed tasks followed by the placement of
the values in their cells (`foldl_collectStep`), so that what C13 says of either branch comes from a few facts about `mapM` in `Except`.
-/
namespace GambitV

/-! ### The pure part of the loop: a fold of `List.set` -/

/-- `sigs[i] = f i` for the `i` of `σ`, in that order.  This is `prangeRun` of `Model/Bulk.lean` under the name C13 uses: iterations that
each write their own cell; `setFold_length` and `setFold_perm` are its lemmas from `Lemmas/Bulk.lean`. -/
def setFold {β : Type} (f : Nat → β) (σ : List Nat) (l0 : List β) : List β :=
  σ.foldl (fun l i => l.set i (f i)) l0

theorem setFold_nil {β : Type} (f : Nat → β) (l0 : List β) : setFold f [] l0 = l0 := rfl

theorem setFold_cons {β : Type} (f : Nat → β) (i : Nat) (σ : List Nat) (l0 : List β) :
    setFold f (i :: σ) l0 = setFold f σ (l0.set i (f i)) := rfl

theorem setFold_concat {β : Type} (f : Nat → β) (σ : List Nat) (i : Nat) (l0 : List β) :
    setFold f (σ ++ [i]) l0 = (setFold f σ l0).set i (f i) := by
  rw [setFold, List.foldl_append]; rfl

theorem setFold_length {β : Type} (f : Nat → β) (σ : List Nat) (l0 : List β) :
    (setFold f σ l0).length = l0.length :=
  prangeRun_length f σ l0

theorem setFold_getElem? {β : Type} (f : Nat → β) (σ : List Nat) (l0 : List β) (j : Nat) :
    (setFold f σ l0)[j]? = if j ∈ σ then l0[j]?.map (fun _ => f j) else l0[j]? :=
  prangeRun_getElem? f σ l0 j

/-- With a permutation schedule every cell is written, whatever the completion order. -/
theorem setFold_perm {β : Type} (f : Nat → β) (σ : List Nat) (l0 : List β)
    (hσ : σ.Perm (List.range l0.length)) :
    setFold f σ l0 = (List.range l0.length).map f :=
  prangeRun_perm f σ l0 hσ

/-! ### `mapM` in `Except`: both branches run their tasks through it -/

section MapM
variable {ι ε α : Type}

theorem mapM_except_cons (f : ι → Except ε α) (i : ι) (l : List ι) :
    (i :: l).mapM f =
      (match f i with
       | .error e => .error e
       | .ok a => (l.mapM f).map (a :: ·)) := by
  rw [List.mapM_cons]
  cases f i with
  | error e => rfl
  | ok a => cases l.mapM f <;> rfl

theorem mapM_except_eq_ok_iff (f : ι → Except ε α) (l : List ι) (l' : List α) :
    l.mapM f = .ok l' ↔ l.map f = l'.map .ok := by
  induction l generalizing l' with
  | nil => cases l' <;> simp [pure, Except.pure]
  | cons i l ih =>
    rw [mapM_except_cons, List.map_cons]
    cases f i with
    | error e => cases l' <;> simp
    | ok a =>
      cases l' with
      | nil => cases l.mapM f <;> simp [Except.map]
      | cons b t =>
        rw [List.map_cons, List.cons.injEq, ← ih]
        cases l.mapM f <;> simp [Except.map]

theorem mapM_except_eq_error (f : ι → Except ε α) (l : List ι) (e : ε)
    (h : l.mapM f = .error e) : ∃ j ∈ l, f j = .error e := by
  induction l with
  | nil => cases h
  | cons i l ih =>
    rw [mapM_except_cons] at h
    cases hf : f i with
    | error e' =>
      rw [hf] at h
      cases h
      exact ⟨i, List.mem_cons_self .., hf⟩
    | ok a =>
      rw [hf] at h
      cases hm : l.mapM f with
      | ok t => rw [hm] at h; cases h
      | error e' =>
        rw [hm] at h; cases h
        obtain ⟨j, hj, hje⟩ := ih hm
        exact ⟨j, List.mem_cons_of_mem _ hj, hje⟩

theorem mapM_except_ok (f : ι → Except ε α) (r : ι → α) (l : List ι)
    (h : ∀ i ∈ l, f i = .ok (r i)) : l.mapM f = .ok (l.map r) := by
  rw [mapM_except_eq_ok_iff, List.map_map]
  exact List.map_congr_left h

theorem mapM_except_ok_mem {f : ι → Except ε α} {l : List ι} {l' : List α}
    (h : l.mapM f = .ok l') {i : ι} (hi : i ∈ l) : ∃ a, f i = .ok a := by
  have hmem : f i ∈ l'.map .ok := (mapM_except_eq_ok_iff f l l').1 h ▸ List.mem_map_of_mem hi
  obtain ⟨a, _, ha⟩ := List.mem_map.1 hmem
  exact ⟨a, ha.symm⟩

/-- Success depends only on which calls are made, not on their order or multiplicity. -/
theorem mapM_except_ok_of_subset {f : ι → Except ε α} {l m : List ι} {l' : List α}
    (h : l.mapM f = .ok l') (hm : ∀ i ∈ m, i ∈ l) : ∃ m', m.mapM f = .ok m' := by
  cases hmm : m.mapM f with
  | ok m' => exact ⟨m', rfl⟩
  | error e =>
    obtain ⟨j, hj, hje⟩ := mapM_except_eq_error f m e hmm
    obtain ⟨a, ha⟩ := mapM_except_ok_mem h (hm j hj)
    rw [ha] at hje; cases hje

end MapM

/-- the outcome of one task seen as an optional value -/
def okVal {ε α : Type} (result : Nat → Except ε α) (i : Nat) : Option α :=
  match result i with
  | .ok a => some a
  | .error _ => none

theorem okVal_eq_some_iff {ε α : Type} {result : Nat → Except ε α} {i : Nat} {a : α} :
    okVal result i = some a ↔ result i = .ok a := by
  unfold okVal
  cases result i <;> simp

theorem map_okVal {ε α : Type} {result : Nat → Except ε α} {l : List Nat} {l' : List α}
    (h : l.mapM result = .ok l') : l.map (okVal result) = l'.map some := by
  have := congrArg (List.map Except.toOption) ((mapM_except_eq_ok_iff ..).1 h)
  rwa [List.map_map, List.map_map] at this

theorem collectStep_error {ε α : Type} (result : Nat → Except ε α) (e : ε) (i : Nat) :
    collectStep result (.error e) i = .error e := rfl

theorem collectStep_ok_ok {ε α : Type} (result : Nat → Except ε α) (l : List (Option α)) (i : Nat)
    (a : α) (h : result i = .ok a) : collectStep result (.ok l) i = .ok (l.set i (some a)) := by
  simp only [collectStep, h]

theorem collectStep_ok_error {ε α : Type} (result : Nat → Except ε α) (l : List (Option α))
    (i : Nat) (e : ε) (h : result i = .error e) : collectStep result (.ok l) i = .error e := by
  simp only [collectStep, h]

theorem foldl_collectStep_error {ε α : Type} (result : Nat → Except ε α) (e : ε) (σ : List Nat) :
    σ.foldl (collectStep result) (.error e) = .error e := by
  induction σ with
  | nil => rfl
  | cons i σ ih => rw [List.foldl_cons, collectStep_error, ih]

/-- The completion loop calls `result` on the completed tasks in order (`mapM`: the first failure ends
it) and, if all succeeded, has stored each value in its own cell. -/
theorem foldl_collectStep {ε α : Type} (result : Nat → Except ε α) (σ : List Nat)
    (l0 : List (Option α)) :
    σ.foldl (collectStep result) (.ok l0) =
      (σ.mapM result).map (fun _ => setFold (okVal result) σ l0) := by
  induction σ generalizing l0 with
  | nil => rfl
  | cons i σ ih =>
    rw [List.foldl_cons, mapM_except_cons, setFold_cons]
    cases hr : result i with
    | error e => rw [collectStep_ok_error _ _ _ _ hr, foldl_collectStep_error]; rfl
    | ok a =>
      rw [collectStep_ok_ok _ _ _ _ hr, ih, okVal_eq_some_iff.2 hr]
      cases σ.mapM result <;> rfl

/-- With a permutation schedule the cells are those of the file-ordered list. -/
theorem collect_eq {ε α : Type} (n : Nat) (result : Nat → Except ε α) (σ : List Nat)
    (hσ : σ.Perm (List.range n)) :
    collect n result σ = (σ.mapM result).map (fun _ => (List.range n).map (okVal result)) := by
  have hσ' : σ.Perm (List.range (List.replicate n (none : Option α)).length) := by
    rw [List.length_replicate]; exact hσ
  rw [collect, foldl_collectStep, setFold_perm _ σ _ hσ', List.length_replicate]

/-- … and the call returns them if the loop ran through. -/
theorem calcAll_eq {ε α : Type} (n : Nat) (result : Nat → Except ε α) (σ : List Nat)
    (hσ : σ.Perm (List.range n)) :
    calcAll n result σ = (σ.mapM result).map (fun _ => allSome ((List.range n).map (okVal result))) := by
  rw [calcAll, collect_eq n result σ hσ]
  cases σ.mapM result <;> rfl

theorem allSome_map_some {α : Type} (l : List α) : allSome (l.map some) = some l := by
  induction l with
  | nil => rfl
  | cons x xs ih => simp [allSome, ih]

theorem allSome_eq_some {α : Type} (l' : List (Option α)) (l : List α)
    (h : allSome l' = some l) : l' = l.map some := by
  induction l' generalizing l with
  | nil => simp [allSome] at h; subst h; rfl
  | cons x xs ih =>
    cases x with
    | none => simp [allSome] at h
    | some x =>
      simp only [allSome, Option.map_eq_some_iff] at h
      obtain ⟨t, ht, rfl⟩ := h
      rw [ih t ht]; rfl

theorem allSome_eq_none {α : Type} (l' : List (Option α)) (h : allSome l' = none) :
    none ∈ l' := by
  induction l' with
  | nil => simp [allSome] at h
  | cons x xs ih =>
    cases x with
    | none => exact List.mem_cons_self ..
    | some x =>
      simp only [allSome, Option.map_eq_none_iff] at h
      exact List.mem_cons_of_mem _ (ih h)

/-- `all(sig is not None for sig in sigs)` is the success of `allSome` -/
theorem all_isSome_eq {α : Type} (l : List (Option α)) : l.all (fun x => x.isSome) = (allSome l).isSome := by
  induction l with
  | nil => rfl
  | cons x xs ih =>
    cases x with
    | none => rfl
    | some x => rw [List.all_cons, ih, allSome, Option.isSome_map]; rfl

end GambitV
