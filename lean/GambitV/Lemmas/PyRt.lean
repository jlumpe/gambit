import GambitV.Model.PyRt
import GambitV.Lemmas.PyEvalAttr

/-!
The library for tying a translated Python function (`Gen.f`, built from the run-time combinators of `Model/PyRt.lean`) to its model.
Sections: the equations of the combinators and the simp set `py_eval` that runs a generated body; the integer-indexed built-ins at
natural-number arguments; dictionaries with distinct keys; the rules for `for` loops; `while` loops; outcomes of calls (`Res.bind`);
the sequencing rules that apply a loop rule to a goal `finish d (loop >>= rest) = v`.

A tie proof goes: `unfold Gen.f Gen.f.run`; `simp only [py_eval, facts…]` evaluates the body up to the first loop; the loop is handed to
the rule for its Python shape; `simp only [py_eval, …]` evaluates what follows, up to the next loop or to the end.  Which rule:
a body that always falls through — `forEach_ok` / `forEach_fold` (a fold), `forEach_inv` / `forEach_idx_inv` / `forEach_range_inv`
(an invariant), `forEach_sim` (a relation to an abstract value); with `continue` — `forEach_inv`, `forEach_sim`, `forEach_filterMap_sim`;
`return` at the first hit — `forEach_findRet`; `break` at the first hit — `forEach_break_inv`; a body that only checks and raises —
`forEach_guardAll`, `forEach_checkAll`; a generated body replaced by a named one — `forEach_congr`, `whileLoop_congr`.
The rules with a hypothesis about the body (`forEach_inv`, `_idx_inv`, `_range_inv`, `_sim`, `_fold`, `_filterMap_sim`, `_findRet`,
`_break_inv`) take the loop as an equation `hw : forEach xs body s = w`, so that the generated body is found by unification and never
written out; `forEach_ok`, `forEach_guardAll`, `forEach_checkAll`, `forEach_congr` and `whileLoop_congr` are rewriting equations with the
loop on the left, for a body of exactly the stated form.  On a small function, name the loop (`generalize hw : forEach _ _ _ = w`) and use the rule's conclusion about `w`
(`Tie/PyReportable.lean` is a complete example).  Where the goal holds a large generated function, apply the rule through a sequencing
rule with `refine`, the loop given as `rfl` (`linkage_to_bio_tree_gen` in `Tie/PyCluster.lean`): `generalize`, `rw` and `subst` have to
abstract the whole goal each time, which is what is slow to check there; `simp only` is not affected.
-/
namespace GambitV.Py

/-! ### the combinators on constructor forms -/

@[simp] theorem guard_false {σ ρ : Type} (e : Exc) : (guard false e : M σ ρ Unit) = .ok () := rfl
@[simp] theorem guard_true {σ ρ : Type} (e : Exc) : (guard true e : M σ ρ Unit) = .error (.exc e) := rfl
@[simp] theorem call_ok {σ ρ α : Type} (a : α) : (call (.ok a) : M σ ρ α) = .ok a := rfl
@[simp] theorem call_raised {σ ρ α : Type} (e : Exc) : (call (.raised e : Res α) : M σ ρ α) = .error (.exc e) := rfl
@[simp] theorem finish_ok {σ ρ : Type} (d : σ → Res ρ) (s : σ) : finish d (.ok s) = d s := rfl
@[simp] theorem finish_ret {σ ρ : Type} (d : σ → Res ρ) (r : ρ) : finish d (.error (.ret r)) = .ok r := rfl
@[simp] theorem finish_exc {σ ρ : Type} (d : σ → Res ρ) (e : Exc) : finish d (.error (.exc e)) = .raised e := rfl
@[simp] theorem finish_fuel {σ ρ : Type} (d : σ → Res ρ) : finish d (.error .fuel) = .fuelOut := rfl

@[simp] theorem forEach_nil {α σ ρ : Type} (body : α → σ → M σ ρ σ) (s : σ) :
    forEach [] body s = .ok (s, true) := rfl

theorem forEach_cons {α σ ρ : Type} (x : α) (xs : List α) (body : α → σ → M σ ρ σ) (s : σ) :
    forEach (x :: xs) body s =
      (match body x s with
       | .ok s' => forEach xs body s'
       | .error (.cont s') => forEach xs body s'
       | .error (.brk s') => .ok (s', false)
       | .error (.ret r) => .error (.ret r)
       | .error (.exc e) => .error (.exc e)
       | .error .fuel => .error .fuel) := rfl

theorem whileLoop_zero {σ ρ : Type} (cond : σ → M σ ρ Bool) (body : σ → M σ ρ σ) (s : σ) :
    whileLoop 0 cond body s = .error .fuel := rfl

theorem whileLoop_succ {σ ρ : Type} (fuel : Nat) (cond : σ → M σ ρ Bool) (body : σ → M σ ρ σ) (s : σ) :
    whileLoop (fuel + 1) cond body s =
      (match cond s with
       | .error e => .error e
       | .ok false => .ok s
       | .ok true =>
         match body s with
         | .ok s' => whileLoop fuel cond body s'
         | .error (.cont s') => whileLoop fuel cond body s'
         | .error (.brk s') => .ok s'
         | .error (.ret r) => .error (.ret r)
         | .error (.exc e) => .error (.exc e)
         | .error .fuel => .error .fuel) := rfl


/-! ### running a generated body

`simp only [py_eval, …]` evaluates `>>=`/`pure`/`throw` of `M`, `call`, `guard`, `finish` and `tryExcept` on constructor forms.  The bind
of a step that is not yet a constructor form (a loop) stays `>>=`, which is what the sequencing rules are applied to.  `forEach_cons` and
`whileLoop_succ` are in no simp set: they would unroll a loop over a literal list. -/

section eval
variable {ε σ ρ α β : Type}

@[py_eval] theorem ok_bind (a : α) (f : α → Except ε β) : (Except.ok a >>= f) = f a := rfl
@[py_eval] theorem error_bind (e : ε) (f : α → Except ε β) : ((Except.error e : Except ε α) >>= f) = .error e := rfl
@[py_eval] theorem pure_eq (a : α) : (pure a : Except ε α) = .ok a := rfl
@[py_eval] theorem throw_eq (e : ε) : (throw e : Except ε α) = .error e := rfl

@[simp] theorem call_fuelOut : (call (.fuelOut : Res α) : M σ ρ α) = .error .fuel := rfl

@[simp] theorem tryExcept_ok (a : α) (e : Exc) (h : M σ ρ α) : tryExcept (.ok a) e h = .ok a := rfl
@[simp] theorem tryExcept_same (e : Exc) (h : M σ ρ α) : tryExcept (.error (.exc e)) e h = h := by
  unfold tryExcept Exc.catches
  simp only [beq_self_eq_true, Bool.true_or, if_true]
/-- `except Exception:` catches every exception class of the model -/
@[simp] theorem tryExcept_other (e' : Exc) (h : M σ ρ α) : tryExcept (.error (.exc e')) .Other h = h := by
  cases e' <;> rfl

/-- a natural number is not negative: the test in front of an index, a bound or `4 ** k` -/
@[py_eval] theorem decide_natCast_neg (n : Nat) : decide ((n : Int) < 0) = false :=
  decide_eq_false (Int.not_lt.2 (Int.natCast_nonneg n))

attribute [py_eval] guard_false guard_true call_ok call_raised call_fuelOut finish_ok finish_ret finish_exc finish_fuel
  tryExcept_ok tryExcept_same tryExcept_other forEach_nil if_true if_false Bool.false_eq_true
  Option.isNone_some Option.isNone_none Option.getD_some Bool.not_true Bool.not_false

end eval

/-! ### `xs[i]`, `xs[a:b]`, `xs[i] = v`, `xs[a:b] = vs`, `enumerate(xs)` at natural-number arguments -/

section nat
variable {α : Type}

/-- `xs[i]` for an integer `i ≥ 0` -/
theorem getItem?_nonneg (xs : List α) (i : Int) (h : 0 ≤ i) : getItem? xs i = xs[i.toNat]? := by
  unfold getItem?
  have h1 : ¬ (i < 0) := by omega
  simp only [h1, if_false]

theorem getItem?_nat (xs : List α) (i : Nat) : getItem? xs (i : Int) = xs[i]? := by
  rw [getItem?_nonneg xs i (Int.natCast_nonneg i), Int.toNat_natCast]

/-- `xs[-1]` -/
theorem getItem?_neg_one (xs : List α) : getItem? xs (-1) = xs.getLast? := by
  unfold getItem?
  rw [List.getLast?_eq_getElem?]
  cases xs with
  | nil => rfl
  | cons x xs =>
    have h1 : ((-1 : Int) < 0) := by omega
    have h2 : ¬ ((-1 : Int) + ((x :: xs).length : Int) < 0) := by
      rw [List.length_cons]; omega
    have h3 : ((-1 : Int) + ((x :: xs).length : Int)).toNat = (x :: xs).length - 1 := by
      rw [Int.add_comm]; exact Int.toNat_sub _ 1
    simp only [h1, if_true, h2, if_false, h3]

theorem clampBound_nat (n d a : Nat) : clampBound n d (some (a : Int)) = min a n := by
  unfold clampBound
  have h1 : ¬ ((a : Int) < 0) := by omega
  simp only [h1, if_false, Int.toNat_natCast]

/-- Clamping the bounds of `xs[a:b]` to the length changes nothing: `drop` and `take` clamp by themselves. -/
theorem drop_take_clamp (xs : List α) (a b : Nat) :
    (xs.drop (min a xs.length)).take (min b xs.length - min a xs.length) = (xs.drop a).take (b - a) := by
  by_cases ha : a < xs.length
  · rw [Nat.min_eq_left (Nat.le_of_lt ha)]
    by_cases hb : b ≤ xs.length
    · rw [Nat.min_eq_left hb]
    · have hb := Nat.le_of_not_le hb
      rw [Nat.min_eq_right hb, List.take_of_length_le (List.length_drop ▸ Nat.le_refl _),
        List.take_of_length_le (by rw [List.length_drop]; exact Nat.sub_le_sub_right hb a)]
  · have e : min a xs.length = xs.length := Nat.min_eq_right (by omega)
    rw [e, List.drop_length, List.drop_eq_nil_of_le (by omega), List.take_nil, List.take_nil]

theorem slice_nat (xs : List α) (a b : Nat) : slice xs (some (a : Int)) (some (b : Int)) = (xs.drop a).take (b - a) := by
  simp only [slice, clampBound_nat]
  exact drop_take_clamp xs a b

theorem slice_nat_none (xs : List α) (a : Nat) : slice xs (some (a : Int)) none = xs.drop a := by
  simp only [slice, clampBound_nat]
  rw [← List.drop_eq_drop_min]
  exact List.take_of_length_le (by rw [List.length_drop]; exact Nat.sub_le_sub_left (Nat.min_le_left ..) _)

theorem slice_none_nat (xs : List α) (b : Nat) : slice xs none (some (b : Int)) = xs.take b := by
  simp only [slice, clampBound_nat]
  exact List.take_eq_take_min.symm

/-- `s[:-n]` for `n ≥ 1` drops the last `n` items (for `n = 0` Python's `s[:-0]` is `s[:0]`, empty). -/
theorem slice_dropLast (s : List α) (n : Nat) (h1 : 1 ≤ n) :
    slice s none (some (-(n : Int))) = s.take (s.length - n) := by
  have hneg : (-(n : Int)) < 0 := by omega
  have hb : (-(n : Int) + (s.length : Int)).toNat = s.length - n := by rw [Int.add_comm]; exact Int.toNat_sub _ n
  simp only [slice, clampBound, hneg, if_true, hb, List.drop_zero, Nat.sub_zero]

theorem listSet_nat (xs : List α) (i : Nat) (v : α) : listSet xs (i : Int) v = xs.set i v := by
  unfold listSet
  have h : ¬ ((i : Int) < 0) := by omega
  simp only [h, if_false, Int.toNat_natCast]

theorem putSlice_nat (xs : List α) (a : Nat) (hi : Int) (vs : List α) :
    putSlice xs (a : Int) hi vs = xs.take a ++ vs ++ xs.drop (a + vs.length) := by
  unfold putSlice
  simp only [clampBound_nat]
  by_cases ha : a ≤ xs.length
  · rw [Nat.min_eq_left ha]
  · rw [Nat.min_eq_right (by omega), List.take_of_length_le (Nat.le_refl _), List.take_of_length_le (by omega),
      List.drop_of_length_le (by omega), List.drop_of_length_le (by omega)]

theorem enumerateFrom_eq_mapIdx (k : Nat) (xs : List α) :
    enumerateFrom k xs = xs.mapIdx (fun i x => (((k + i : Nat) : Int), x)) := by
  induction xs generalizing k with
  | nil => rfl
  | cons x xs ih =>
    rw [enumerateFrom, ih, List.mapIdx_cons]
    simp only [Nat.add_zero, Nat.add_assoc, Nat.add_comm 1]

theorem enumerate_eq_mapIdx (xs : List α) : enumerate xs = xs.mapIdx (fun i x => ((i : Int), x)) := by
  rw [enumerate, enumerateFrom_eq_mapIdx]; simp only [Nat.zero_add]

theorem mem_enumerate (xs : List α) (x : Int × α) (h : x ∈ enumerate xs) :
    ∃ i, ∃ hi : i < xs.length, x = ((i : Int), xs[i]) := by
  rw [enumerate_eq_mapIdx, List.mem_mapIdx] at h
  obtain ⟨i, hi, rfl⟩ := h
  exact ⟨i, hi, rfl⟩

/-- `xs[j]` of a mapped list at an in-range position -/
theorem getItem?_map_nat {β : Type} (f : α → β) (xs : List α) (d : α) {j : Nat} (h : j < xs.length) :
    getItem? (xs.map f) (j : Int) = some (f (xs.getD j d)) := by
  rw [getItem?_nat, List.getElem?_map, List.getElem?_eq_getElem h, List.getElem_eq_getD d]
  rfl

theorem index?_eq_none [BEq α] [LawfulBEq α] {l : List α} {a : α} (h : a ∉ l) : index? l a = none := by
  induction l with
  | nil => rfl
  | cons x l ih =>
    have hx : x ≠ a := fun e => h (e ▸ List.mem_cons_self)
    have hl : a ∉ l := fun m => h (List.mem_cons_of_mem _ m)
    simp [index?, hx, ih hl]

/-- `xs.index(a)` splits the list at the position it returns -/
theorem index?_of_mem [BEq α] [LawfulBEq α] {l : List α} {a : α} (h : a ∈ l) :
    ∃ pre rest, l = pre ++ a :: rest ∧ index? l a = some pre.length := by
  induction l with
  | nil => cases h
  | cons x l ih =>
    by_cases hx : x = a
    · subst hx
      exact ⟨[], l, rfl, by simp [index?]⟩
    · have hl : a ∈ l := by
        rcases List.mem_cons.mp h with e | m
        · exact absurd e.symm hx
        · exact m
      obtain ⟨pre, rest, e, hi⟩ := ih hl
      refine ⟨x :: pre, rest, by rw [e]; rfl, ?_⟩
      simp [index?, hx, hi]

end nat

/-! ### dictionaries with distinct keys -/

section dict
variable {κ ν : Type} [BEq κ] [LawfulBEq κ]

theorem dictSet_new (d : List (κ × ν)) (k : κ) (v : ν) (h : k ∉ d.map (·.1)) : dictSet d k v = d ++ [(k, v)] := by
  induction d with
  | nil => rfl
  | cons p d ih =>
    obtain ⟨k', v'⟩ := p
    rw [List.map_cons, List.mem_cons, not_or] at h
    have hne : (k' == k) = false := by
      rw [beq_eq_false_iff_ne]; exact fun e => h.1 e.symm
    simp only [dictSet, hne, Bool.false_eq_true, if_false, ih h.2, List.cons_append]

/-- with distinct keys nothing is overwritten: the dictionary of a comprehension is its list of pairs -/
theorem dictFromPairs_nodup (ps : List (κ × ν)) (h : (ps.map (·.1)).Nodup) : dictFromPairs ps = ps := by
  suffices H : ∀ d : List (κ × ν), ((d ++ ps).map (·.1)).Nodup → ps.foldl (fun d p => dictSet d p.1 p.2) d = d ++ ps from H [] h
  induction ps with
  | nil => intro d _; rw [List.foldl_nil, List.append_nil]
  | cons p ps ih =>
    intro d hd
    have hp : p.1 ∉ d.map (·.1) := by
      rw [List.map_append, List.map_cons] at hd
      exact fun hm => (List.nodup_append.1 hd).2.2 _ hm _ (List.mem_cons_self ..) rfl
    rw [List.foldl_cons, dictSet_new d p.1 p.2 hp, ih (List.nodup_cons.1 h).2 _ (by rwa [List.append_assoc]), List.append_assoc]
    rfl

end dict

/-! ### `for` loops

`for i in range(m)` is translated as a loop over `(List.range m).map (0 + ·)` (`forEach_range_inv`). -/

section loops
variable {α σ ρ : Type}

/-- loops with pointwise equal bodies are equal (used to replace a generated body by a named one) -/
theorem forEach_congr {b₁ b₂ : α → σ → M σ ρ σ} (h : ∀ x s, b₁ x s = b₂ x s)
    (xs : List α) (s : σ) : forEach xs b₁ s = forEach xs b₂ s := by
  have : b₁ = b₂ := funext fun x => funext (h x)
  rw [this]

/-- A `for` loop whose body falls through or `continue`s on every item, keeping an invariant `I` of the items consumed so far and the
state: the loop runs to completion and `I xs` holds at the end. -/
theorem forEach_inv {xs : List α} {body : α → σ → M σ ρ σ} {s : σ} {w : M σ ρ (σ × Bool)}
    (hw : forEach xs body s = w) (I : List α → σ → Prop)
    (hstep : ∀ pre x post s, xs = pre ++ x :: post → I pre s →
      ∃ s', (body x s = .ok s' ∨ body x s = .error (.cont s')) ∧ I (pre ++ [x]) s')
    (h0 : I [] s) : ∃ s', w = .ok (s', true) ∧ I xs s' := by
  subst hw
  suffices H : ∀ (post pre : List α) (s : σ), xs = pre ++ post → I pre s →
      ∃ s', forEach post body s = .ok (s', true) ∧ I xs s' from H xs [] s rfl h0
  intro post
  induction post with
  | nil => intro pre s e hI; exact ⟨s, rfl, by rwa [e, List.append_nil]⟩
  | cons x post ih =>
    intro pre s e hI
    obtain ⟨s', hb, hI'⟩ := hstep pre x post s e hI
    rw [forEach_cons]
    rcases hb with hb | hb <;> rw [hb] <;>
      exact ih (pre ++ [x]) s' (by rw [e, List.append_assoc]; rfl) hI'

/-- … with the invariant indexed by the number of items consumed.  The body's value is named by an equation (`body xs[i] s = r`), to be
substituted only when the facts of the invariant have been taken apart: with a large generated body this keeps the goal small. -/
theorem forEach_idx_inv {xs : List α} {body : α → σ → M σ ρ σ} {s : σ} {w : M σ ρ (σ × Bool)}
    (hw : forEach xs body s = w) (P : Nat → σ → Prop)
    (hb : ∀ i (h : i < xs.length) s, P i s → ∀ r, body xs[i] s = r → ∃ s', r = .ok s' ∧ P (i + 1) s')
    (h0 : P 0 s) : ∃ s', w = .ok (s', true) ∧ P xs.length s' := by
  refine forEach_inv hw (fun pre s => P pre.length s) (fun pre x post s e h => ?_) h0
  subst e
  obtain ⟨s', h1, h2⟩ := hb pre.length (by simp) s h _ rfl
  exact ⟨s', .inl (by simpa using h1), by simpa using h2⟩

/-- `for i in range(m)` (translated as a loop over `0 + j`, `j < m`) -/
theorem forEach_range_inv {m : Nat} {body : Int → σ → M σ ρ σ} {s : σ} {w : M σ ρ (σ × Bool)}
    (hw : forEach ((List.range m).map (fun (j : Nat) => (0 : Int) + (j : Int))) body s = w) (P : Nat → σ → Prop)
    (hb : ∀ i s, i < m → P i s → ∀ r, body (i : Int) s = r → ∃ s', r = .ok s' ∧ P (i + 1) s')
    (h0 : P 0 s) : ∃ s', w = .ok (s', true) ∧ P m s' := by
  have hlen : ((List.range m).map (fun (j : Nat) => (0 : Int) + (j : Int))).length = m := by rw [List.length_map, List.length_range]
  obtain ⟨s', h1, h2⟩ := forEach_idx_inv hw P (fun i h s hP r hr =>
    hb i s (hlen ▸ h) hP r (by rw [← hr, List.getElem_map, List.getElem_range, Int.zero_add])) h0
  exact ⟨s', h1, hlen ▸ h2⟩

/-- … with a relation `R` between the state and an abstract value that the body advances by `step` -/
theorem forEach_sim {β : Type} {xs : List α} {body : α → σ → M σ ρ σ} {s : σ} {w : M σ ρ (σ × Bool)}
    (hw : forEach xs body s = w) (R : σ → β → Prop) (step : β → α → β)
    (hb : ∀ x ∈ xs, ∀ s b, R s b → ∃ s', (body x s = .ok s' ∨ body x s = .error (.cont s')) ∧ R s' (step b x))
    {b : β} (hs : R s b) : ∃ s', w = .ok (s', true) ∧ R s' (xs.foldl step b) :=
  forEach_inv hw (fun pre s => R s (pre.foldl step b)) (fun pre x post s e h => by
    rw [List.foldl_append]
    exact hb x (e ▸ List.mem_append_right _ (List.mem_cons_self ..)) s _ h) hs

/-- … in particular a left fold, when the body is `ok (step s x)` on the items it meets (`Q`) from the states it meets (`P`) -/
theorem forEach_fold {xs : List α} {body : α → σ → M σ ρ σ} {s : σ} {w : M σ ρ (σ × Bool)}
    (hw : forEach xs body s = w) (P : σ → Prop) (Q : α → Prop) (step : σ → α → σ)
    (hb : ∀ x s, Q x → P s → body x s = .ok (step s x) ∧ P (step s x))
    (hx : ∀ x ∈ xs, Q x) (hs : P s) : w = .ok (xs.foldl step s, true) := by
  obtain ⟨s', rfl, rfl, -⟩ := forEach_sim hw (fun s' t => s' = t ∧ P s') step
    (fun x hm s' t ⟨h1, h2⟩ => by
      obtain ⟨h3, h4⟩ := hb x s' (hx x hm) h2
      exact ⟨_, .inl h3, by rw [h1], h1 ▸ h4⟩) ⟨rfl, hs⟩
  rfl

/-- A `for` loop whose body always falls through (`ok`) is a left fold. -/
theorem forEach_ok (xs : List α) (body : α → σ → M σ ρ σ) (f : σ → α → σ)
    (h : ∀ x s, body x s = .ok (f s x)) (s : σ) :
    forEach xs body s = .ok (xs.foldl f s, true) :=
  forEach_fold rfl (fun _ => True) (fun _ => True) f (fun x s _ _ => ⟨h x s, trivial⟩) (fun _ _ => trivial) trivial

/-- A `for` loop whose body returns `r x` at the first `x` with `p x` and falls through before it (`I`: what the body leaves alone). -/
theorem forEach_findRet {xs : List α} {body : α → σ → M σ ρ σ} {s : σ} {w : M σ ρ (σ × Bool)}
    (hw : forEach xs body s = w) (I : σ → Prop) (p : α → Bool) (r : α → ρ)
    (hT : ∀ x s, I s → p x = true → body x s = .error (.ret (r x)))
    (hF : ∀ x s, I s → p x = false → ∃ s', body x s = .ok s' ∧ I s')
    (hs : I s) :
    (∃ a, xs.find? p = some a ∧ w = .error (.ret (r a))) ∨ (xs.find? p = none ∧ ∃ s', w = .ok (s', true) ∧ I s') := by
  subst hw
  induction xs generalizing s with
  | nil => exact .inr ⟨rfl, s, rfl, hs⟩
  | cons x xs ih =>
    rw [forEach_cons, List.find?_cons]
    cases hp : p x with
    | true => exact .inl ⟨x, rfl, by rw [hT x s hs hp]⟩
    | false =>
      obtain ⟨s', hb, hs'⟩ := hF x s hs hp
      rw [hb]
      exact ih hs'

/-- A `for` loop whose body falls through while `p x` is false and breaks at the first `x` with `p x`:
the final state satisfies `J` if some element satisfied `p` (the state of the break), and the invariant `I` otherwise. -/
theorem forEach_break_inv {xs : List α} {body : α → σ → M σ ρ σ} {s : σ}
    {w : M σ ρ (σ × Bool)} (hw : forEach xs body s = w) (p : α → Bool) (I J : σ → Prop)
    (hno : ∀ x s, I s → p x = false → ∃ s', body x s = .ok s' ∧ I s')
    (hyes : ∀ x s, I s → p x = true → ∃ s', body x s = .error (.brk s') ∧ J s')
    (hI : I s) :
    ∃ r, w = .ok r ∧ (if xs.any p then J r.1 else I r.1) := by
  subst hw
  induction xs generalizing s with
  | nil => exact ⟨(s, true), rfl, by simpa using hI⟩
  | cons x xs ih =>
    cases hp : p x with
    | false =>
      obtain ⟨s', hb, hI'⟩ := hno x s hI hp
      rw [forEach_cons, hb]
      simpa only [List.any_cons, hp, Bool.false_or] using ih hI'
    | true =>
      obtain ⟨s', hb, hJ⟩ := hyes x s hI hp
      rw [forEach_cons, hb]
      exact ⟨(s', false), rfl, by simpa only [List.any_cons, hp, Bool.true_or, if_true] using hJ⟩

/-- A `for` loop whose body, on every element of the list and from every state satisfying the invariant `I`, either falls through
or `continue`s, and changes the observed component `obs` by `upd · i` when `g x = some i` and not at all when `g x = none`: the loop
runs to completion and the observed component is the left fold of `upd` over `xs.filterMap g`.
The loop is passed as an equation so that the body is found by unification. -/
theorem forEach_filterMap_sim {β γ : Type} {xs : List α} {body : α → σ → M σ ρ σ} {s : σ} {w : M σ ρ (σ × Bool)}
    (hw : forEach xs body s = w) (obs : σ → β) (I : σ → Prop) (g : α → Option γ) (upd : β → γ → β)
    (hnone : ∀ x ∈ xs, ∀ s, I s → g x = none →
      ∃ s', (body x s = .ok s' ∨ body x s = .error (.cont s')) ∧ I s' ∧ obs s' = obs s)
    (hsome : ∀ x ∈ xs, ∀ s i, I s → g x = some i →
      ∃ s', (body x s = .ok s' ∨ body x s = .error (.cont s')) ∧ I s' ∧ obs s' = upd (obs s) i)
    (hs : I s) :
    ∃ r, w = .ok (r, true) ∧ I r ∧ obs r = (xs.filterMap g).foldl upd (obs s) := by
  obtain ⟨r, hr, hI, ho⟩ := forEach_sim hw (fun s b => I s ∧ obs s = b)
    (fun b x => match g x with | some i => upd b i | none => b)
    (fun x hx s b ⟨hI, ho⟩ => by
      cases hg : g x with
      | none =>
        obtain ⟨s', hb, hI', ho'⟩ := hnone x hx s hI hg
        exact ⟨s', hb, hI', by rw [ho', ho]⟩
      | some i =>
        obtain ⟨s', hb, hI', ho'⟩ := hsome x hx s i hI hg
        exact ⟨s', hb, hI', by rw [ho', ho]⟩)
    ⟨hs, rfl⟩
  exact ⟨r, hr, hI, ho.trans List.foldl_filterMap.symm⟩

/-- `for x in xs: f(x)` for a call whose value is dropped: the first outcome that is not a value -/
def checkAll {α β : Type} (chk : α → Res β) : List α → Res Unit
  | [] => .ok ()
  | x :: xs => match chk x with
    | .ok _ => checkAll chk xs
    | .raised e => .raised e
    | .fuelOut => .fuelOut

/-- `for x in xs: chk(x)`, where the loop variable is a field (`get` / `set`) of the state beside what `chk` reads of it (`key`) -/
theorem forEach_checkAll {α β σ ρ κ : Type} (key : σ → κ) (chk : κ → α → Res β) (get : σ → α) (set : σ → α → σ)
    (hk : ∀ s x, key (set s x) = key s) (h1 : ∀ s x y, set (set s x) y = set s y) (h2 : ∀ s x, get (set s x) = x)
    (h3 : ∀ s, set s (get s) = s) (xs : List α) (s : σ) :
    forEach xs (fun x s => (call (chk (key s) x) : M σ ρ β) >>= fun _ => Except.ok (set s x)) s
      = ((call (checkAll (chk (key s)) xs) : M σ ρ Unit) >>= fun _ => Except.ok (set s (xs.getLastD (get s)), true)) := by
  induction xs generalizing s with
  | nil => rw [List.getLastD_nil, h3]; rfl
  | cons x xs ih =>
    rw [forEach_cons, checkAll, List.getLastD_cons]
    cases chk (key s) x with
    | ok b =>
      show forEach xs _ (set s x) = _
      rw [ih, hk, h1, h2]
    | raised e => rfl
    | fuelOut => rfl

/-- `for x in xs: if bad(x): raise e` -/
theorem forEach_guardAll {α σ ρ : Type} (bad : α → Bool) (e : Exc) (upd : σ → α → σ) (xs : List α) (s : σ) :
    forEach xs (fun x s => if bad x = true then (Except.error (Ctl.exc e) : M σ ρ σ) else Except.ok (upd s x)) s
      = if xs.any bad = true then Except.error (Ctl.exc e) else Except.ok (xs.foldl upd s, true) := by
  induction xs generalizing s with
  | nil => rfl
  | cons x xs ih =>
    rw [forEach_cons, List.any_cons, List.foldl_cons]
    cases bad x with
    | true => rfl
    | false => exact ih _

end loops

/-! ### `while` loops

There is no invariant rule for `whileLoop`: the `while` loops of the development have models that consume the same fuel (`findLoop`,
`Forest.chain`, `chunkSlicesFrom`), and each tie is an induction on that fuel with `whileLoop_succ` (`whileLoop_find_sim`, `skip_spec`,
`outer_spec`, `chunk_loop`).  A rule with a measure that the fuel exceeds was tried on `skip_spec` / `outer_spec` and did not make them shorter. -/

theorem whileLoop_congr {σ ρ : Type} {c₁ c₂ : σ → M σ ρ Bool} {b₁ b₂ : σ → M σ ρ σ}
    (hc : ∀ s, c₁ s = c₂ s) (hb : ∀ s, b₁ s = b₂ s) (n : Nat) (s : σ) :
    whileLoop n c₁ b₁ s = whileLoop n c₂ b₂ s := by
  have h1 : c₁ = c₂ := funext hc
  have h2 : b₁ = b₂ := funext hb
  rw [h1, h2]

/-! ### outcomes of calls -/

def Res.bind {α β : Type} (r : Res α) (f : α → Res β) : Res β :=
  match r with
  | .ok a => f a
  | .raised e => .raised e
  | .fuelOut => .fuelOut

def Res.map {α β : Type} (f : α → β) (r : Res α) : Res β := r.bind (fun a => .ok (f a))

theorem Res.bind_ok {α β : Type} (a : α) (f : α → Res β) : (Res.ok a).bind f = f a := rfl
theorem Res.bind_raised {α β : Type} (e : Exc) (f : α → Res β) : (Res.raised e : Res α).bind f = .raised e := rfl
theorem Res.bind_fuelOut {α β : Type} (f : α → Res β) : (Res.fuelOut : Res α).bind f = .fuelOut := rfl
theorem Res.map_ok {α β : Type} (f : α → β) (a : α) : Res.map f (.ok a) = .ok (f a) := rfl
theorem Res.map_raised {α β : Type} (f : α → β) (e : Exc) : Res.map f (.raised e : Res α) = .raised e := rfl
theorem Res.map_fuelOut {α β : Type} (f : α → β) : Res.map f (.fuelOut : Res α) = .fuelOut := rfl

/-! ### sequencing rules

For a goal `finish d (m >>= f) = v` in which `m` is a loop or a call and `f` the rest of the generated function, applied with `refine`;
`h` is one of the loop rules above with its loop given as `rfl`. -/

section seq
variable {α σ ρ : Type} {d : σ → Res ρ} {v : Res ρ}

/-- a step `m` that ends normally in a value satisfying `P`, then `f` -/
theorem finish_bind_ok {m : M σ ρ α} {f : α → M σ ρ σ} (P : α → Prop) (h : ∃ a, m = .ok a ∧ P a)
    (hk : ∀ a, P a → finish d (f a) = v) : finish d (m >>= f) = v := by
  obtain ⟨a, e, hP⟩ := h
  rw [e]
  exact hk a hP

/-- … as the last step of the function -/
theorem finish_of_ok {m : M σ ρ σ} (P : σ → Prop) (h : ∃ a, m = .ok a ∧ P a) (hk : ∀ a, P a → d a = v) : finish d m = v := by
  obtain ⟨a, e, hP⟩ := h
  rw [e]
  exact hk a hP

/-- `finish_bind_ok` for a `for` loop that runs to completion (the flag is `true`) -/
theorem finish_bind_loop {m : M σ ρ (σ × Bool)} {f : σ × Bool → M σ ρ σ} (P : σ → Prop) (h : ∃ s', m = .ok (s', true) ∧ P s')
    (hk : ∀ s', P s' → finish d (f (s', true)) = v) : finish d (m >>= f) = v := by
  obtain ⟨s', e, hP⟩ := h
  rw [e]
  exact hk s' hP

/-- `finish_bind_loop` with `forEach_idx_inv`, for an equation: `for x in xs: body`, then `f`, where the body falls through on element
number `i` from every state satisfying `P i`, establishing `P (i + 1)`; `f` is entered with a final state of which only `P xs.length`
is known. -/
theorem finish_forEach_bind {xs : List α} {body : α → σ → M σ ρ σ} {s : σ} {f : σ × Bool → M σ ρ σ} (P : Nat → σ → Prop)
    (hb : ∀ i (h : i < xs.length) s, P i s → ∀ r, body xs[i] s = r → ∃ s', r = .ok s' ∧ P (i + 1) s')
    (h0 : P 0 s) (hk : ∀ s', P xs.length s' → finish d (f (s', true)) = v) :
    finish d (forEach xs body s >>= f) = v :=
  finish_bind_loop _ (forEach_idx_inv rfl P hb h0) hk

theorem ite_bind {ε α β : Type} (c : Prop) [Decidable c] (x y : Except ε α) (f : α → Except ε β) :
    ((if c then x else y) >>= f) = if c then x >>= f else y >>= f := by
  split <;> rfl

theorem finish_ite {σ ρ : Type} (d : σ → Res ρ) (c : Prop) [Decidable c] (x y : M σ ρ σ) :
    finish d (if c then x else y) = if c then finish d x else finish d y := by
  split <;> rfl

/-- the rest `f` of a body, known as a function `T` of the state it is entered with, is the `else` of what comes before it.  Applied
to the goal as it stands (`refine`), so that what comes before `f` is evaluated on a term that no longer contains `f`. -/
theorem finish_bind {σ ρ : Type} {d : σ → Res ρ} {x : M σ ρ σ} {f : σ → M σ ρ σ} (T : σ → Res ρ)
    (h : ∀ s, finish d (f s) = T s) : finish d (x >>= f) = finish T x := by
  cases x with
  | ok s => exact h s
  | error e => cases e <;> rfl

theorem finish_call {σ ρ α : Type} (d : σ → Res ρ) (r : Res α) (k : α → M σ ρ σ) :
    finish d (call r >>= k) = r.bind (fun v => finish d (k v)) := by
  cases r <;> rfl

end seq

end GambitV.Py
