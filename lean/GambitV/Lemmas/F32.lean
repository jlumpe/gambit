import GambitV.Lemmas.Fmt
import Mathlib.Tactic.Linarith
import Mathlib.Tactic.Ring
import Mathlib.Tactic.FieldSimp

/-! The binary32 model of `Model/F32.lean` read in exact rationals: `ratExp` is a floor logarithm, `roundRat` depends on the
ratio only, and in the normal range its value is `r * 2^(e-23)` with `r` the nearest-even rounding (`IsRne`) of the scaled ratio.
Error bounds, monotonicity and the facts about ratios in `[0, 1]` all come from that description. -/
namespace GambitV.F32
open Fmt (roundHalfEven roundHalfEven_scale roundHalfEven_one)

/-! ### `ratExp num den = ⌊log₂ (num/den)⌋` -/

theorem two_zpow_pos (e : ℤ) : (0 : ℚ) < 2 ^ e := zpow_pos two_pos e

theorem zpow_sub_bounds_of_cross_mul {n d a b : ℕ} (h1 : d * 2 ^ a ≤ n * 2 ^ b) (h2 : n * 2 ^ b < d * 2 ^ (a + 1)) :
    (d : ℚ) * 2 ^ ((a : ℤ) - b) ≤ n ∧ (n : ℚ) < d * 2 ^ ((a : ℤ) - b + 1) := by
  have h : (2 : ℚ) ≠ 0 := two_ne_zero
  have pb : (0 : ℚ) < 2 ^ b := by positivity
  rw [sub_add_eq_add_sub, ← Nat.cast_succ, zpow_sub₀ h, zpow_sub₀ h, zpow_natCast, zpow_natCast,
    zpow_natCast, ← mul_div_assoc, ← mul_div_assoc, div_le_iff₀ pb, lt_div_iff₀ pb]
  exact ⟨by exact_mod_cast h1, by exact_mod_cast h2⟩

theorem ratExp_spec {num den : ℕ} (hn : 0 < num) (hd : 0 < den) :
    (den : ℚ) * 2 ^ (ratExp num den) ≤ num ∧ (num : ℚ) < den * 2 ^ (ratExp num den + 1) := by
  have hn1 : 2 ^ num.log2 ≤ num := Nat.log2_self_le hn.ne'
  have hn2 : num < 2 ^ (num.log2 + 1) := Nat.lt_log2_self
  have hd1 : 2 ^ den.log2 ≤ den := Nat.log2_self_le hd.ne'
  have hd2 : den < 2 ^ (den.log2 + 1) := Nat.lt_log2_self
  unfold ratExp
  simp only []
  split
  · next hc =>
    refine zpow_sub_bounds_of_cross_mul hc ?_
    rw [Nat.mul_comm den]
    exact Nat.mul_lt_mul_of_lt_of_le hn2 hd1 hd
  · next hc =>
    rw [sub_sub, ← Nat.cast_succ]
    refine zpow_sub_bounds_of_cross_mul ?_ ?_
    · rw [Nat.mul_comm den]
      exact Nat.mul_le_mul hn1 hd2.le
    · rw [Nat.pow_succ, Nat.pow_succ, ← Nat.mul_assoc, ← Nat.mul_assoc]
      exact Nat.mul_lt_mul_of_pos_right (Nat.lt_of_not_ge hc) Nat.two_pos

theorem le_ratExp_iff {num den : ℕ} (hn : 0 < num) (hd : 0 < den) (k : ℤ) :
    k ≤ ratExp num den ↔ (den : ℚ) * 2 ^ k ≤ num := by
  obtain ⟨s1, s2⟩ := ratExp_spec hn hd
  have hdq : (0 : ℚ) < den := by exact_mod_cast hd
  constructor
  · intro h
    exact (mul_le_mul_of_nonneg_left (zpow_le_zpow_right₀ one_le_two h) hdq.le).trans s1
  · intro h
    have a := lt_of_mul_lt_mul_left (h.trans_lt s2) hdq.le
    rw [zpow_lt_zpow_iff_right₀ one_lt_two] at a
    omega

theorem ratExp_lt_iff {num den : ℕ} (hn : 0 < num) (hd : 0 < den) (k : ℤ) :
    ratExp num den < k ↔ (num : ℚ) < den * 2 ^ k := by
  rw [← not_le, le_ratExp_iff hn hd, not_le]

theorem ratExp_spec_div {num den : ℕ} (hn : 0 < num) (hd : 0 < den) :
    (2 : ℚ) ^ ratExp num den ≤ (num : ℚ) / den ∧ (num : ℚ) / den < 2 ^ (ratExp num den + 1) := by
  have hdq : (0 : ℚ) < den := by exact_mod_cast hd
  rw [le_div_iff₀ hdq, div_lt_iff₀ hdq, mul_comm, mul_comm _ (den : ℚ)]
  exact ratExp_spec hn hd

theorem ratExp_unique {num den : ℕ} (hn : 0 < num) (hd : 0 < den) (e : ℤ)
    (h1 : (den : ℚ) * 2 ^ e ≤ num) (h2 : (num : ℚ) < den * 2 ^ (e + 1)) :
    ratExp num den = e := by
  have a := (le_ratExp_iff hn hd e).mpr h1
  have b := (ratExp_lt_iff hn hd (e + 1)).mpr h2
  exact le_antisymm (Int.lt_add_one_iff.mp b) a

theorem ratExp_scale {c num den : ℕ} (hc : 0 < c) (hn : 0 < num) (hd : 0 < den) :
    ratExp (c * num) (c * den) = ratExp num den := by
  obtain ⟨s1, s2⟩ := ratExp_spec hn hd
  have hcq : (0 : ℚ) < c := by exact_mod_cast hc
  apply ratExp_unique (Nat.mul_pos hc hn) (Nat.mul_pos hc hd)
  · push_cast; rw [mul_assoc]; exact mul_le_mul_of_nonneg_left s1 (le_of_lt hcq)
  · push_cast; rw [mul_assoc]; exact mul_lt_mul_of_pos_left s2 hcq

theorem ratExp_range {n u : ℕ} (hn : 0 < n) (hu : 0 < u) (hn' : n < 2 ^ 24) (hu' : u < 2 ^ 24) :
    -24 ≤ ratExp n u ∧ ratExp n u ≤ 23 := by
  constructor
  · rw [le_ratExp_iff hn hu, zpow_neg, ← div_eq_mul_inv, div_le_iff₀ (two_zpow_pos _)]
    exact_mod_cast hu'.le.trans (Nat.le_mul_of_pos_left _ hn)
  · have := (ratExp_lt_iff hn hu 24).mpr (by exact_mod_cast hn'.trans_le (Nat.le_mul_of_pos_left _ hu))
    omega

/-- Operands below `2^24` give a ratio in the normal range, which is the hypothesis of the facts about `val (roundRat n u)`. -/
theorem ratExp_normal {n u : ℕ} (hn : 0 < n) (hu : 0 < u) (hn' : n < 2 ^ 24) (hu' : u < 2 ^ 24) :
    -126 ≤ ratExp n u ∧ ratExp n u ≤ 126 := by
  obtain ⟨e1, e2⟩ := ratExp_range hn hu hn' hu'
  exact ⟨by omega, by omega⟩

theorem ratExp_nonpos {n u : ℕ} (hn : 0 < n) (hle : n ≤ u) : ratExp n u ≤ 0 := by
  have := (ratExp_lt_iff hn (hn.trans_le hle) 1).mpr (by exact_mod_cast (by omega : n < u * 2 ^ 1))
  omega

theorem ratExp_neg {n u : ℕ} (hn : 0 < n) (hlt : n < u) : ratExp n u < 0 :=
  (ratExp_lt_iff hn (hn.trans hlt) 0).mpr (by rw [zpow_zero, mul_one]; exact_mod_cast hlt)

/-! ### `roundRat` in its steps; it depends on the ratio only

`scN`, `scD`, `pack` name the `let`-steps of `roundRat`: the operands scaled by `2^|23-e|` and the assembly of the bit pattern, where a
significand `2^24` is a carry into the next exponent. The step between them, the quotient rounded to nearest (ties to even), is the
`Fmt.roundHalfEven` that `F32.fmt4` uses too. -/

def scN (num : ℕ) (e : ℤ) : ℕ := if 23 - e ≥ 0 then num * 2 ^ (23 - e).toNat else num
def scD (den : ℕ) (e : ℤ) : ℕ := if 23 - e ≥ 0 then den else den * 2 ^ (-(23 - e)).toNat

def pack (q : ℕ) (e : ℤ) : UInt32 :=
  let e' := if q = 2 ^ 24 then e + 1 else e
  let q' := if q = 2 ^ 24 then 2 ^ 23 else q
  if e' + 127 ≤ 0 ∨ e' + 127 ≥ 255 then nanBits
  else UInt32.ofNat ((e' + 127).toNat * 2 ^ 23 + (q' - 2 ^ 23))

theorem roundRat_eq (num den : ℕ) :
    roundRat num den =
      if num = 0 ∨ den = 0 then zeroBits
      else pack (roundHalfEven (scN num (ratExp num den)) (scD den (ratExp num den))) (ratExp num den) := rfl

theorem roundRat_zero_left (den : ℕ) : roundRat 0 den = 0 := by
  simp [roundRat_eq, zeroBits]

theorem roundRat_zero_right (num : ℕ) : roundRat num 0 = 0 := by
  simp [roundRat_eq, zeroBits]

theorem roundRat_of_pos {num den : ℕ} (hn : 0 < num) (hd : 0 < den) :
    roundRat num den =
      pack (roundHalfEven (scN num (ratExp num den)) (scD den (ratExp num den))) (ratExp num den) := by
  rw [roundRat_eq, if_neg (not_or.mpr ⟨hn.ne', hd.ne'⟩)]

theorem scN_scale (c num : ℕ) (e : ℤ) : scN (c * num) e = c * scN num e := by
  unfold scN; split
  · rw [Nat.mul_assoc]
  · rfl

theorem scD_scale (c den : ℕ) (e : ℤ) : scD (c * den) e = c * scD den e := by
  unfold scD; split
  · rfl
  · rw [Nat.mul_assoc]

theorem scD_pos {den : ℕ} (hd : 0 < den) (e : ℤ) : 0 < scD den e := by
  unfold scD; split
  · exact hd
  · exact Nat.mul_pos hd (Nat.two_pow_pos _)

theorem scN_div_scD (num : ℕ) {den : ℕ} (hd : 0 < den) (e : ℤ) :
    (scN num e : ℚ) / (scD den e : ℚ) = (num : ℚ) / den / 2 ^ (e - 23) := by
  have hdq : (den : ℚ) ≠ 0 := by exact_mod_cast (Nat.ne_of_gt hd)
  unfold scN scD
  by_cases h : 23 - e ≥ 0
  · obtain ⟨k, hk⟩ := Int.eq_ofNat_of_zero_le h
    rw [if_pos h, if_pos h, ← neg_sub 23 e, hk, Int.toNat_natCast, zpow_neg, zpow_natCast]
    push_cast
    field_simp
  · obtain ⟨k, hk⟩ := Int.eq_ofNat_of_zero_le (a := e - 23) (by omega)
    rw [if_neg h, if_neg h, neg_sub, hk, Int.toNat_natCast, zpow_natCast]
    push_cast
    rw [div_div]

theorem roundRat_scale {c : ℕ} (hc : 0 < c) (num den : ℕ) :
    roundRat (c * num) (c * den) = roundRat num den := by
  by_cases h : num = 0 ∨ den = 0
  · have h' : c * num = 0 ∨ c * den = 0 := by
      rcases h with h | h
      · left; rw [h]; rfl
      · right; rw [h]; rfl
    rw [roundRat_eq, roundRat_eq, if_pos h, if_pos h']
  · have hn : 0 < num := Nat.pos_of_ne_zero fun e => h (Or.inl e)
    have hd : 0 < den := Nat.pos_of_ne_zero fun e => h (Or.inr e)
    rw [roundRat_of_pos hn hd, roundRat_of_pos (Nat.mul_pos hc hn) (Nat.mul_pos hc hd),
      ratExp_scale hc hn hd, scN_scale, scD_scale, roundHalfEven_scale hc]

theorem roundRat_mul_pow (num den k : ℕ) : roundRat (num * 2 ^ k) (den * 2 ^ k) = roundRat num den := by
  rw [Nat.mul_comm num, Nat.mul_comm den, roundRat_scale (Nat.two_pow_pos k)]

/-! ### `(float) n` is exact below `2^24` -/

theorem ratExp_one {n : ℕ} (hn : 0 < n) : ratExp n 1 = n.log2 := by
  have h : 2 ^ n.log2 ≤ n := Nat.log2_self_le hn.ne'
  simp [ratExp, (by decide : Nat.log2 1 = 0), h]

theorem decode_bits {k q : ℕ} (hk1 : 1 ≤ k) (hk2 : k ≤ 254) (hq1 : 2 ^ 23 ≤ q) (hq2 : q < 2 ^ 24) :
    decode (UInt32.ofNat (k * 2 ^ 23 + (q - 2 ^ 23))) = some (q, (k : ℤ) - 150) := by
  obtain ⟨r, rfl⟩ := Nat.exists_eq_add_of_le hq1
  have hr : r < 2 ^ 23 := by omega
  have hlt : 2 ^ 23 * k + r < UInt32.size := by simp only [UInt32.size]; omega
  have h0 : 2 ^ 23 * k + r ≠ 0 := by omega
  have h3 : ¬ (k = 0 ∨ k ≥ 255) := by omega
  simp only [decode, Nat.add_sub_cancel_left, Nat.mul_comm k, UInt32.toNat_ofNat_of_lt' hlt,
    Nat.mul_add_div (Nat.two_pow_pos 23), Nat.mul_add_mod, Nat.div_eq_of_lt hr, Nat.mod_eq_of_lt hr,
    Nat.add_zero, if_neg h0, if_neg h3]

theorem decode_pack {q : ℕ} {e : ℤ} (hq1 : 2 ^ 23 ≤ q) (hq2 : q < 2 ^ 24)
    (he1 : -126 ≤ e) (he2 : e ≤ 127) : decode (pack q e) = some (q, e - 23) := by
  obtain ⟨k, hk⟩ : ∃ k : ℕ, e + 127 = k := ⟨(e + 127).toNat, by omega⟩
  have hrange : ¬ ((k : ℤ) ≤ 0 ∨ (k : ℤ) ≥ 255) := by omega
  simp only [pack, if_neg (Nat.ne_of_lt hq2), hk, Int.toNat_natCast, if_neg hrange]
  rw [decode_bits (by omega) (by omega) hq1 hq2]
  simp only [Option.some.injEq, Prod.mk.injEq, true_and]
  omega

theorem log2_le_23 {n : ℕ} (h0 : 0 < n) (h : n < 2 ^ 24) : n.log2 ≤ 23 := by
  exact Nat.le_of_lt_succ ((Nat.log2_lt (n := n) (k := 24) h0.ne').mpr h)

theorem norm_sig_bounds {n : ℕ} (h0 : 0 < n) (h : n < 2 ^ 24) :
    2 ^ 23 ≤ n * 2 ^ (23 - n.log2) ∧ n * 2 ^ (23 - n.log2) < 2 ^ 24 := by
  have hl := log2_le_23 h0 h
  have e1 : 2 ^ 23 = 2 ^ n.log2 * 2 ^ (23 - n.log2) := by rw [← Nat.pow_add, Nat.add_sub_cancel' hl]
  have e2 : 2 ^ 24 = 2 ^ (n.log2 + 1) * 2 ^ (23 - n.log2) := by
    rw [← Nat.pow_add, Nat.add_right_comm, Nat.add_sub_cancel' hl]
  rw [e1, e2]
  exact ⟨Nat.mul_le_mul_right _ (Nat.log2_self_le h0.ne'),
    Nat.mul_lt_mul_of_pos_right Nat.lt_log2_self (Nat.two_pow_pos _)⟩

theorem ofNat_eq_pack {n : ℕ} (h0 : 0 < n) (h : n < 2 ^ 24) :
    ofNat n = pack (n * 2 ^ (23 - n.log2)) n.log2 := by
  have hl := log2_le_23 h0 h
  have hsh : (23 : ℤ) - (n.log2 : ℤ) ≥ 0 := by omega
  have ht : ((23 : ℤ) - (n.log2 : ℤ)).toNat = 23 - n.log2 := Int.toNat_sub 23 n.log2
  unfold ofNat
  rw [roundRat_of_pos h0 Nat.one_pos, ratExp_one h0]
  simp only [scN, scD, if_pos hsh, ht, roundHalfEven_one]

theorem ofNat_zero : ofNat 0 = 0 := roundRat_zero_left 1

theorem ofInt_natCast (n : ℕ) : ofInt n = ofNat n := by
  simp [ofInt]

theorem decode_zero : decode 0 = some (0, 0) := by decide

theorem decode_ofNat {n : ℕ} (h0 : 0 < n) (h : n < 2 ^ 24) :
    decode (ofNat n) = some (n * 2 ^ (23 - n.log2), -((23 - n.log2 : ℕ) : ℤ)) := by
  have hl := log2_le_23 h0 h
  obtain ⟨b1, b2⟩ := norm_sig_bounds h0 h
  rw [ofNat_eq_pack h0 h, decode_pack b1 b2 (by omega) (by omega)]
  simp only [Option.some.injEq, Prod.mk.injEq, true_and]
  omega

/-- Zero included: `decode (ofNat 0) = some (0, 0)` is `0 * 2^0` with exponent `-0`. -/
theorem exists_decode_ofNat {n : ℕ} (h : n < 2 ^ 24) :
    ∃ s : ℕ, decode (ofNat n) = some (n * 2 ^ s, -(s : ℤ)) := by
  rcases Nat.eq_zero_or_pos n with rfl | h0
  · exact ⟨0, by decide⟩
  · exact ⟨_, decode_ofNat h0 h⟩

/-- `exists_decode_ofNat` with the significand named; `h0` is not needed. -/
theorem ofNat_exact {n : ℕ} (h0 : 0 < n) (h : n < 2 ^ 24) :
    ∃ m s : ℕ, decode (ofNat n) = some (m, -(s : ℤ)) ∧ m = n * 2 ^ s :=
  let ⟨s, hs⟩ := exists_decode_ofNat h
  ⟨_, s, hs, rfl⟩

/-! ### Division of two exactly converted integers rounds the exact ratio once -/

/-- Whichever operand `div` rescales, both end up scaled by the same power of two. -/
theorem div_of_scaled {a b : UInt32} {n u s t : ℕ} (ha : decode a = some (n * 2 ^ s, -(s : ℤ)))
    (hb : decode b = some (u * 2 ^ t, -(t : ℤ))) (hu : 0 < u) : div a b = roundRat n u := by
  have hmb : u * 2 ^ t ≠ 0 := (Nat.mul_pos hu (Nat.two_pow_pos t)).ne'
  simp only [div, ha, hb, if_neg hmb, neg_sub_neg, neg_sub]
  split
  · next hd =>
    obtain ⟨k, rfl⟩ := Nat.exists_eq_add_of_le (by omega : s ≤ t)
    rw [Int.toNat_sub, Nat.add_sub_cancel_left, Nat.mul_assoc, ← Nat.pow_add, roundRat_mul_pow]
  · next hd =>
    obtain ⟨k, rfl⟩ := Nat.exists_eq_add_of_le (by omega : t ≤ s)
    rw [Int.toNat_sub, Nat.add_sub_cancel_left, Nat.mul_assoc, ← Nat.pow_add, roundRat_mul_pow]

theorem div_ofNat' {n u : ℕ} (hu : 0 < u) (hn : n < 2 ^ 24) (hu' : u < 2 ^ 24) :
    div (ofNat n) (ofNat u) = roundRat n u :=
  let ⟨_, hs⟩ := exists_decode_ofNat hn
  let ⟨_, ht⟩ := exists_decode_ofNat hu'
  div_of_scaled hs ht hu

/-- `div_ofNat'`; `h0` is not needed. -/
theorem div_ofNat {n u : ℕ} (h0 : 0 < n) (hu : 0 < u) (hn : n < 2 ^ 24) (hu' : u < 2 ^ 24) :
    div (ofNat n) (ofNat u) = roundRat n u :=
  div_ofNat' hu hn hu'

theorem div_ofNat_zero {u : ℕ} (hu : 0 < u) (hu' : u < 2 ^ 24) :
    div (ofNat 0) (ofNat u) = 0 := by
  rw [div_ofNat' hu (by decide) hu', roundRat_zero_left]

/-! ### The value of `roundRat num den` -/

/-- Exact rational value of a (non-negative, normal or zero) bit pattern; `0` for patterns outside
the modelled range. It needs `ℚ`, so it stands here and not in `Model/F32.lean`, which is core Lean only. -/
def val (b : UInt32) : ℚ :=
  match decode b with
  | some (m, e) => (m : ℚ) * 2 ^ e
  | none => 0

theorem val_of_decode {b : UInt32} {m : ℕ} {e : ℤ} (h : decode b = some (m, e)) :
    val b = (m : ℚ) * 2 ^ e := by
  simp [val, h]

theorem val_zero : val 0 = 0 := by
  rw [val_of_decode decode_zero]; simp

theorem decode_one : decode oneBits = some (2 ^ 23, -23) := by decide

theorem val_one : val oneBits = 1 := by
  rw [val_of_decode decode_one]
  norm_num

/-- `r` is an integer nearest to `x`, and the even one when there are two. -/
def IsRne (x : ℚ) (r : ℕ) : Prop :=
  x ≤ r + 1 / 2 ∧ (r : ℚ) ≤ x + 1 / 2 ∧ ((r : ℚ) = x + 1 / 2 ∨ x = r + 1 / 2 → r % 2 = 0)

/-- If `s < r` then `r - 1/2 ≤ x ≤ y ≤ s + 1/2 ≤ r - 1/2`, so `r = s + 1` and both `x`, `y` are ties, which makes `r` and `s`
both even. -/
theorem IsRne.mono {x y : ℚ} {r s : ℕ} (hx : IsRne x r) (hy : IsRne y s) (h : x ≤ y) : r ≤ s := by
  obtain ⟨-, a2, a3⟩ := hx
  obtain ⟨b1, -, b3⟩ := hy
  by_contra hlt
  have hq : (s : ℚ) + 1 ≤ r := by exact_mod_cast Nat.lt_of_not_le hlt
  have p1 := a3 (Or.inl (le_antisymm a2 (by linarith only [b1, h, hq])))
  have p2 := b3 (Or.inr (le_antisymm b1 (by linarith only [a2, h, hq])))
  have : r = s + 1 := by exact_mod_cast le_antisymm (by linarith only [a2, b1, h]) hq
  omega

theorem IsRne.natCast (n : ℕ) : IsRne n n :=
  have h : (n : ℚ) < n + 1 / 2 := lt_add_of_pos_right _ (by norm_num)
  ⟨h.le, h.le, fun h' => absurd h' (by rintro (h' | h') <;> exact h.ne h')⟩

theorem IsRne.abs_sub_le {x p : ℚ} {r : ℕ} (h : IsRne (x / p) r) (hp : 0 < p) :
    |(r : ℚ) * p - x| ≤ p / 2 := by
  obtain ⟨h1, h2, -⟩ := h
  rw [div_le_iff₀ hp] at h1
  rw [← sub_le_iff_le_add, le_div_iff₀ hp] at h2
  exact abs_le.mpr ⟨by linarith only [h1], by linarith only [h2]⟩

theorem roundHalfEven_isRne (N : ℕ) {D : ℕ} (hD : 0 < D) : IsRne ((N : ℚ) / D) (roundHalfEven N D) := by
  obtain ⟨h1, h2, h3⟩ := Fmt.roundHalfEven_nearest N D hD
  have hDq : (0 : ℚ) < D := by exact_mod_cast hD
  have q1 : (2 : ℚ) * N ≤ 2 * (roundHalfEven N D * D) + D := by exact_mod_cast h1
  have q2 : (2 : ℚ) * (roundHalfEven N D * D) ≤ 2 * N + D := by exact_mod_cast h2
  have hx : (N : ℚ) / D * D = N := div_mul_cancel₀ _ hDq.ne'
  generalize (N : ℚ) / D = x at *
  generalize roundHalfEven N D = r at *
  refine ⟨le_of_mul_le_mul_right ?_ hDq, le_of_mul_le_mul_right ?_ hDq, fun h => h3 ?_⟩
  · linarith only [q1, hx]
  · linarith only [q2, hx]
  · rcases h with h | h
    · right
      have e : (2 : ℚ) * (r * D) = 2 * N + D := by
        rw [h, ← hx]
        ring
      exact_mod_cast e
    · left
      have e : (2 : ℚ) * N = 2 * (r * D) + D := by
        rw [← hx, h]
        ring
      exact_mod_cast e

theorem pack_carry (e : ℤ) : pack (2 ^ 24) e = pack (2 ^ 23) (e + 1) := by
  simp [pack]

theorem two_zpow_eq_two_pow_mul (e : ℤ) : (2 : ℚ) ^ e = 2 ^ 23 * 2 ^ (e - 23) := by
  rw [← zpow_natCast, ← zpow_add₀ two_ne_zero]
  congr 1; omega

theorem val_pack {r : ℕ} {e : ℤ} (h1 : 2 ^ 23 ≤ r) (h2 : r ≤ 2 ^ 24) (he1 : -126 ≤ e)
    (he2 : e ≤ 126) : val (pack r e) = (r : ℚ) * 2 ^ (e - 23) := by
  by_cases hr : r = 2 ^ 24
  · subst hr
    rw [pack_carry, val_of_decode (decode_pack (le_refl _) (by norm_num) (by omega) (by omega)),
      add_sub_right_comm, zpow_add_one₀ two_ne_zero]
    push_cast
    ring
  · rw [val_of_decode (decode_pack h1 (Nat.lt_of_le_of_ne h2 hr) he1 (by omega))]

/-- For a ratio in the normal range the result is `r * 2^(e-23)` where `e = ⌊log₂(num/den)⌋` and `r ∈ [2^23, 2^24]` is
`num/den / 2^(e-23)` rounded to nearest, ties to even. -/
theorem roundRat_val {num den : ℕ} (hn : 0 < num) (hd : 0 < den)
    (he1 : -126 ≤ ratExp num den) (he2 : ratExp num den ≤ 126) :
    ∃ r : ℕ, 2 ^ 23 ≤ r ∧ r ≤ 2 ^ 24 ∧ IsRne ((num : ℚ) / den / 2 ^ (ratExp num den - 23)) r ∧
      val (roundRat num den) = (r : ℚ) * 2 ^ (ratExp num den - 23) := by
  obtain ⟨s1, s2⟩ := ratExp_spec_div hn hd
  have hp := two_zpow_pos (ratExp num den - 23)
  have hr := roundHalfEven_isRne (scN num (ratExp num den)) (scD_pos hd (ratExp num den))
  rw [scN_div_scD num hd] at hr
  -- the scaled ratio lies in `[2^23, 2^24)`, hence so does its rounding, up to a carry
  rw [zpow_add_one₀ two_ne_zero] at s2
  rw [two_zpow_eq_two_pow_mul] at s1 s2
  have h1 := (IsRne.natCast (2 ^ 23)).mono hr (by
    rw [le_div_iff₀ hp, Nat.cast_pow, Nat.cast_ofNat]; exact s1)
  have h2 := hr.mono (IsRne.natCast (2 ^ 24)) (by
    rw [div_le_iff₀ hp, Nat.cast_pow, Nat.cast_ofNat]; linarith only [s2])
  exact ⟨_, h1, h2, hr, by rw [roundRat_of_pos hn hd]; exact val_pack h1 h2 he1 he2⟩

/-- Half a unit in the last place of the binade of `num/den`. -/
theorem roundRat_err {num den : ℕ} (hn : 0 < num) (hd : 0 < den)
    (he1 : -126 ≤ ratExp num den) (he2 : ratExp num den ≤ 126) :
    |val (roundRat num den) - (num : ℚ) / den| ≤ 2 ^ (ratExp num den - 24) := by
  obtain ⟨r, -, -, hr, hv⟩ := roundRat_val hn hd he1 he2
  rw [hv, show ratExp num den - 24 = ratExp num den - 23 - 1 by ring, zpow_sub_one₀ two_ne_zero,
    ← div_eq_mul_inv]
  exact hr.abs_sub_le (two_zpow_pos _)

theorem roundRat_rel_err {num den : ℕ} (hn : 0 < num) (hd : 0 < den)
    (he1 : -126 ≤ ratExp num den) (he2 : ratExp num den ≤ 126) :
    |val (roundRat num den) - (num : ℚ) / den| ≤ (num : ℚ) / den / 2 ^ 24 := by
  refine (roundRat_err hn hd he1 he2).trans ?_
  rw [zpow_sub₀ two_ne_zero, zpow_ofNat]
  exact div_le_div_of_nonneg_right (ratExp_spec_div hn hd).1 (by positivity)

theorem val_roundRat_mem_binade {num den : ℕ} (hn : 0 < num) (hd : 0 < den)
    (he1 : -126 ≤ ratExp num den) (he2 : ratExp num den ≤ 126) :
    (2 : ℚ) ^ ratExp num den ≤ val (roundRat num den) ∧
      val (roundRat num den) ≤ 2 ^ (ratExp num den + 1) := by
  obtain ⟨r, h1, h2, -, hv⟩ := roundRat_val hn hd he1 he2
  have hp := two_zpow_pos (ratExp num den - 23)
  have q1 : (2 : ℚ) ^ 23 ≤ r := by exact_mod_cast h1
  have q2 : (r : ℚ) ≤ 2 ^ 24 := by exact_mod_cast h2
  rw [hv, zpow_add_one₀ two_ne_zero, two_zpow_eq_two_pow_mul]
  have := mul_le_mul_of_nonneg_right q2 hp.le
  exact ⟨mul_le_mul_of_nonneg_right q1 hp.le, by linarith only [this]⟩

theorem roundRat_mono {n u n' u' : ℕ} (hn : 0 < n) (hu : 0 < u) (hn' : 0 < n') (hu' : 0 < u')
    (he1 : -126 ≤ ratExp n u) (he2 : ratExp n u ≤ 126)
    (he1' : -126 ≤ ratExp n' u') (he2' : ratExp n' u' ≤ 126)
    (h : (n : ℚ) / u ≤ (n' : ℚ) / u') :
    val (roundRat n u) ≤ val (roundRat n' u') := by
  have huq' : (0 : ℚ) < u' := by exact_mod_cast hu'
  have hee : ratExp n u ≤ ratExp n' u' := by
    rw [le_ratExp_iff hn' hu', mul_comm, ← le_div_iff₀ huq']
    exact (ratExp_spec_div hn hu).1.trans h
  rcases hee.lt_or_eq with hlt | heq
  · -- different binades
    exact (val_roundRat_mem_binade hn hu he1 he2).2.trans ((zpow_le_zpow_right₀ one_le_two (Int.add_one_le_iff.mpr hlt)).trans
      (val_roundRat_mem_binade hn' hu' he1' he2').1)
  · -- same binade: the significands are roundings of ratios in the same order
    obtain ⟨r, -, -, hr, hv⟩ := roundRat_val hn hu he1 he2
    obtain ⟨r', -, -, hr', hv'⟩ := roundRat_val hn' hu' he1' he2'
    rw [hv, hv', ← heq]
    rw [← heq] at hr'
    have hp := two_zpow_pos (ratExp n u - 23)
    have := hr.mono hr' (div_le_div_of_nonneg_right h hp.le)
    exact mul_le_mul_of_nonneg_right (by exact_mod_cast this) hp.le

/-! #### The operand range of the distance kernel: `n ≤ u < 2^24` -/

theorem roundRat_self {n : ℕ} (hn : 0 < n) : roundRat n n = oneBits := by
  have h := roundRat_scale hn 1 1
  rw [Nat.mul_one] at h
  rw [h]; decide +kernel

theorem val_roundRat_pos {n u : ℕ} (hn : 0 < n) (hu : 0 < u) (hn' : n < 2 ^ 24)
    (hu' : u < 2 ^ 24) : 0 < val (roundRat n u) := by
  obtain ⟨e1, e2⟩ := ratExp_normal hn hu hn' hu'
  exact (two_zpow_pos _).trans_le (val_roundRat_mem_binade hn hu e1 e2).1

/-- `2^-25` is half an ulp below `1`; `0/u` and `u/u` are exact. -/
theorem roundRat_err_unit' {n u : ℕ} (hle : n ≤ u) (hu' : u < 2 ^ 24) :
    |val (roundRat n u) - (n : ℚ) / u| ≤ 1 / 2 ^ 25 := by
  rcases Nat.eq_zero_or_pos n with rfl | hn
  · rw [roundRat_zero_left, val_zero, Nat.cast_zero, zero_div, sub_self, abs_zero]; positivity
  rcases Nat.eq_or_lt_of_le hle with rfl | hlt
  · rw [roundRat_self hn, val_one, div_self (by exact_mod_cast hn.ne'), sub_self, abs_zero]
    positivity
  · obtain ⟨e1, e2⟩ := ratExp_normal hn (hn.trans hlt) (hlt.trans hu') hu'
    have e3 := ratExp_neg hn hlt
    refine (roundRat_err hn (hn.trans hlt) e1 e2).trans ?_
    rw [one_div, ← zpow_natCast, ← zpow_neg]
    exact zpow_le_zpow_right₀ one_le_two (by omega)

/-- `roundRat_err_unit'`; `hn` is not needed. -/
theorem roundRat_err_unit {n u : ℕ} (hn : 0 < n) (hle : n ≤ u) (hu' : u < 2 ^ 24) :
    |val (roundRat n u) - (n : ℚ) / u| ≤ 1 / 2 ^ 25 :=
  roundRat_err_unit' hle hu'

theorem val_roundRat_lt_one {n u : ℕ} (hlt : n < u) (hu' : u < 2 ^ 24) :
    val (roundRat n u) < 1 := by
  have herr := (abs_le.mp (roundRat_err_unit' hlt.le hu')).2
  have huq : (0 : ℚ) < u := by exact_mod_cast Nat.zero_lt_of_lt hlt
  -- `n/u ≤ 1 - 1/u < 1 - 2^-24`
  have h : (n : ℚ) * 2 ^ 24 + u ≤ u * 2 ^ 24 := by
    exact_mod_cast (by omega : n * 2 ^ 24 + u ≤ u * 2 ^ 24)
  have hx : (n : ℚ) / u ≤ 1 - 1 / 2 ^ 24 := by rw [div_le_iff₀ huq]; linarith only [h]
  linarith only [herr, hx]

theorem val_roundRat_mem_unit {n u : ℕ} (hle : n ≤ u) (hu' : u < 2 ^ 24) :
    0 ≤ val (roundRat n u) ∧ val (roundRat n u) ≤ 1 := by
  rcases Nat.eq_zero_or_pos n with rfl | hn
  · rw [roundRat_zero_left, val_zero]; exact ⟨le_rfl, zero_le_one⟩
  refine ⟨(val_roundRat_pos hn (hn.trans_le hle) (hle.trans_lt hu') hu').le, ?_⟩
  rcases Nat.eq_or_lt_of_le hle with rfl | hlt
  · rw [roundRat_self hn, val_one]
  · exact (val_roundRat_lt_one hlt hu').le

theorem roundRat_eq_one_iff {n u : ℕ} (hn : 0 < n) (hle : n ≤ u) (hu' : u < 2 ^ 24) :
    roundRat n u = oneBits ↔ n = u := by
  refine ⟨fun h => ?_, fun h => h ▸ roundRat_self hn⟩
  by_contra hne
  have := val_roundRat_lt_one (lt_of_le_of_ne hle hne) hu'
  rw [h, val_one] at this
  exact lt_irrefl _ this

theorem roundRat_eq_zero_iff {n u : ℕ} (hu : 0 < u) (hn' : n < 2 ^ 24) (hu' : u < 2 ^ 24) :
    roundRat n u = 0 ↔ n = 0 := by
  refine ⟨fun h => ?_, fun h => h ▸ roundRat_zero_left u⟩
  by_contra hne
  have := val_roundRat_pos (Nat.pos_of_ne_zero hne) hu hn' hu'
  rw [h, val_zero] at this
  exact lt_irrefl _ this

/-- In terms of the exact ratio, `n/0 = 0` included: rounding hits `0` and `1` only from `0` and `1`. -/
theorem roundRat_eq_zero_iff_div {n u : ℕ} (hn' : n < 2 ^ 24) (hu' : u < 2 ^ 24) :
    roundRat n u = 0 ↔ (n : ℚ) / u = 0 := by
  rw [div_eq_zero_iff, Nat.cast_eq_zero, Nat.cast_eq_zero]
  rcases Nat.eq_zero_or_pos u with rfl | hu
  · simp [roundRat_zero_right]
  · rw [roundRat_eq_zero_iff hu hn' hu']; exact ⟨Or.inl, fun h => h.resolve_right hu.ne'⟩

theorem roundRat_eq_one_iff_div {n u : ℕ} (hle : n ≤ u) (hu' : u < 2 ^ 24) :
    roundRat n u = oneBits ↔ (n : ℚ) / u = 1 := by
  rcases Nat.eq_zero_or_pos n with rfl | hn
  · rw [roundRat_zero_left, Nat.cast_zero, zero_div]
    exact ⟨fun h => absurd h (by decide), fun h => absurd h zero_ne_one⟩
  · rw [roundRat_eq_one_iff hn hle hu',
      div_eq_one_iff_eq (by exact_mod_cast (hn.trans_le hle).ne'), Nat.cast_inj]

/-- Ratios further apart than the two relative rounding errors are rounded to different values. -/
theorem roundRat_lt_of_gap {n u n' u' : ℕ} (hn : 0 < n) (hu : 0 < u) (hn' : 0 < n') (hu' : 0 < u')
    (he1 : -126 ≤ ratExp n u) (he2 : ratExp n u ≤ 126)
    (he1' : -126 ≤ ratExp n' u') (he2' : ratExp n' u' ≤ 126)
    (h : (n : ℚ) / u * (1 + 1 / 2 ^ 24) < (n' : ℚ) / u' * (1 - 1 / 2 ^ 24)) :
    val (roundRat n u) < val (roundRat n' u') := by
  have r1 := (abs_le.mp (roundRat_rel_err hn hu he1 he2)).2
  have r2 := (abs_le.mp (roundRat_rel_err hn' hu' he1' he2')).1
  linarith only [r1, r2, h]

/-- The bound `2^23` is where the gap condition `(1 + 2^-24) u < (1 - 2^-24) (u + 1)` stops holding. -/
theorem roundRat_succ_den_lt {n u : ℕ} (hn : 0 < n) (hle : n ≤ u) (hu' : u + 1 < 2 ^ 23) :
    val (roundRat n (u + 1)) < val (roundRat n u) := by
  have hu : 0 < u := hn.trans_le hle
  have hu24 : u + 1 < 2 ^ 24 := by omega
  have hn24 : n < 2 ^ 24 := by omega
  obtain ⟨e1, e2⟩ := ratExp_normal hn hu hn24 (Nat.lt_of_succ_lt hu24)
  obtain ⟨e1', e2'⟩ := ratExp_normal hn (Nat.succ_pos u) hn24 hu24
  have hnq : (0 : ℚ) < n := by exact_mod_cast hn
  have huq : (0 : ℚ) < u := by exact_mod_cast hu
  have huq' : (u : ℚ) + 1 < 2 ^ 23 := by exact_mod_cast hu'
  apply roundRat_lt_of_gap hn (Nat.succ_pos u) hn hu e1' e2' e1 e2
  rw [Nat.cast_succ, div_mul_eq_mul_div, div_mul_eq_mul_div, div_lt_div_iff₀ (add_pos huq one_pos) huq,
    mul_assoc, mul_assoc]
  exact mul_lt_mul_of_pos_left (by linarith only [huq']) hnq

end GambitV.F32
