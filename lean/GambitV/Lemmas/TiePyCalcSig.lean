import GambitV.Lemmas.PyRt
import GambitV.Lemmas.Find

/-!
Helper lemmas for `Tie/PyCalcSig.lean` (`KmerMatch.kmer_index`, `accumulate_kmers`, `calc_signature`).
Nothing here mentions a generated definition: facts about the accumulator of the run-time library, and the facts about the model (`Model/Find.lean`) the array accumulator needs
(an index obtained from a slice of at most `k` bytes is below `4^k`; reverse matches are at positions `≥ k`).
-/
namespace GambitV.TieCalcSig
open GambitV GambitV.Py

theorem tryExcept_ok {σ ρ α : Type} (a : α) (e : Exc) (h : M σ ρ α) : tryExcept (.ok a) e h = .ok a := Py.tryExcept_ok a e h

/-! ### the accumulator -/

/-- a natural number below `4^k` is accepted by both flavours of accumulator of that `k` -/
theorem addBad_false (a : Acc) (i : Nat) (h : i < 4 ^ a.k) : Acc.addBad a (i : Int) = false := by
  unfold Acc.addBad
  have h1 : ¬ ((i : Int) < 0) := by omega
  have h2 : ¬ ((4 : Int) ^ a.k ≤ (i : Int)) := by
    have : ((4 ^ a.k : Nat) : Int) = (4 : Int) ^ a.k := by simp only [Int.natCast_pow, Int.cast_ofNat_Int]
    rw [← this]
    omega
  simp only [h1, h2, decide_false, Bool.and_false, Bool.or_false]

theorem add_natCast (a : Acc) (i : Nat) : Acc.add a (i : Int) = { a with elems := a.elems ++ [i] } := by
  unfold Acc.add
  rw [Int.toNat_natCast]

/-- adding lists of elements one after the other appends them all -/
theorem foldl_append_elems {γ : Type} (f : γ → List Nat) (seqs : List γ) (a : Acc) :
    seqs.foldl (fun (a : Acc) (s : γ) => ({ a with elems := a.elems ++ f s } : Acc)) a
      = { a with elems := a.elems ++ seqs.flatMap f } := by
  induction seqs generalizing a with
  | nil => simp only [List.foldl_nil, List.flatMap_nil, List.append_nil]
  | cons x xs ih => rw [List.foldl_cons, ih]; simp only [List.flatMap_cons, List.append_assoc]

/-! ### the model: bounds of the indices, positions of the reverse matches -/

theorem pySlice_length_le (s : List UInt8) (a b : Nat) : (pySlice s a b).length ≤ b - a := by
  unfold pySlice
  rw [List.length_take]
  exact Nat.min_le_left _ _

theorem fwdKmer_length_le (k p : Nat) (s : List UInt8) (loc : Nat) : (fwdKmer k p s loc).length ≤ k := by
  have := pySlice_length_le s (loc + p) (loc + p + k)
  unfold fwdKmer
  omega

theorem revKmer_length_le (k : Nat) (s : List UInt8) (loc : Nat) : (revKmer k s loc).length ≤ k := by
  have := pySlice_length_le s (loc - k) loc
  unfold revKmer
  omega

/-- an index the forward wrapper returns for a slice of at most `k` bytes is below `4^k` -/
theorem kmerToIndex_lt (w : List UInt8) (i k : Nat) (hw : w.length ≤ k) (h : kmerToIndex w = .ok i) : i < 4 ^ k :=
  Nat.lt_of_lt_of_le (C07.encode_lt w i ((C07.wrapper_ok_iff w i).1 h).2) (Nat.pow_le_pow_right (by decide) hw)

theorem kmerToIndexRc_lt (w : List UInt8) (i k : Nat) (hw : w.length ≤ k) (h : kmerToIndexRc w = .ok i) : i < 4 ^ k :=
  kmerToIndex_lt (revcomp w) i k (by rw [C07.revcomp_length]; exact hw) (kmerToIndexRc_eq w ▸ h)

/-- the reverse search starts at offset `k` -/
theorem le_of_mem_revMatches (k : Nat) (pre hay : List UInt8) (loc : Nat) (h : loc ∈ revMatches k pre hay) : k ≤ loc := by
  rw [revMatches_eq, List.mem_filter, List.mem_range'_1] at h
  exact h.1.1

/-! ### the matches `find_kmers` yields, and the index of each -/

/-- the list `find_kmers` returns (by `Tie.Py.find_kmers_eq'`) -/
def matchList (k : Nat) (pre s : List UInt8) : List (Int × Bool) :=
  (fwdMatches k pre (haystack s)).map (fun (l : Nat) => ((l : Int), false))
    ++ (revMatches k pre (haystack s)).map (fun (l : Nat) => ((l : Int) + (pre.length : Int) - 1, true))

/-- the index `accumulate_kmers` adds for a match (`none`: the wrapper raises `ValueError`, the match is skipped) -/
def matchIndex (k : Nat) (pre s : List UInt8) (m : Int × Bool) : Option Nat :=
  if m.2 then (kmerToIndexRc (revKmer k s (m.1 - (pre.length : Int) + 1).toNat)).toOption
  else (kmerToIndex (fwdKmer k pre.length s m.1.toNat)).toOption

theorem matchIndex_fwd (k : Nat) (pre s : List UInt8) (l : Nat) :
    matchIndex k pre s ((l : Int), false) = (kmerToIndex (fwdKmer k pre.length s l)).toOption := by
  simp only [matchIndex, Bool.false_eq_true, if_false, Int.toNat_natCast]

theorem matchIndex_rev (k : Nat) (pre s : List UInt8) (l : Nat) :
    matchIndex k pre s ((l : Int) + (pre.length : Int) - 1, true) = (kmerToIndexRc (revKmer k s l)).toOption := by
  have : (l : Int) + (pre.length : Int) - 1 - (pre.length : Int) + 1 = l := by omega
  simp only [matchIndex, if_true, this, Int.toNat_natCast]

theorem filterMap_matchList (k : Nat) (pre s : List UInt8) :
    (matchList k pre s).filterMap (matchIndex k pre s) = seqIndices k pre s := by
  unfold matchList seqIndices
  simp only [List.filterMap_append, List.filterMap_map, Function.comp_def, matchIndex_fwd, matchIndex_rev]

/-- every match is a forward one at a natural position, or a reverse one found at a position `≥ k` -/
theorem mem_matchList (k : Nat) (pre s : List UInt8) (m : Int × Bool) (h : m ∈ matchList k pre s) :
    (∃ l : Nat, m = ((l : Int), false)) ∨ (∃ l : Nat, k ≤ l ∧ m = ((l : Int) + (pre.length : Int) - 1, true)) := by
  unfold matchList at h
  rw [List.mem_append, List.mem_map, List.mem_map] at h
  rcases h with ⟨l, -, rfl⟩ | ⟨l, hl, rfl⟩
  · exact Or.inl ⟨l, rfl⟩
  · exact Or.inr ⟨l, le_of_mem_revMatches _ _ _ _ hl, rfl⟩

theorem toOption_eq_some {ε α : Type} {e : Except ε α} {a : α} (h : e.toOption = some a) : e = .ok a := by
  cases e with
  | error _ => cases h
  | ok b => exact congrArg Except.ok (Option.some.inj h)

/-- the index of a match is below `4^k` -/
theorem matchIndex_lt (k : Nat) (pre s : List UInt8) (m : Int × Bool) (i : Nat) (h : matchIndex k pre s m = some i) :
    i < 4 ^ k := by
  unfold matchIndex at h
  split at h
  · exact kmerToIndexRc_lt _ _ _ (revKmer_length_le ..) (toOption_eq_some h)
  · exact kmerToIndex_lt _ _ _ (fwdKmer_length_le ..) (toOption_eq_some h)

end GambitV.TieCalcSig
