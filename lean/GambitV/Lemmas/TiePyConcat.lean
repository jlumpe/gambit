import GambitV.Lemmas.PyRt
import GambitV.Lemmas.Indexing

/-!
What the translated `ConcatenatedSignatureArray` methods (`GambitV.Tie.PyConcat`) read from and write into the packed representation
(`pV`, `pB`) of a list of signatures: a bound, the slice of the values between two bounds, `SignatureArray.uninitialized` of the list of
sizes, the item-by-item copy (`CArr.putItem`) into it, and the contiguous view.  Nothing here mentions the generated term.
-/
namespace GambitV.TieConcat
open GambitV GambitV.Py

/-- `values` of the packed collection, as Python integers -/
def pV (sigs : List (List Nat)) : List Int := (Concat.ofList sigs).values.map (fun (x : Nat) => (x : Int))
/-- `bounds` of the packed collection, as Python integers -/
def pB (sigs : List (List Nat)) : List Int := (Concat.ofList sigs).bounds.map (fun (x : Nat) => (x : Int))

/-- `bounds[i]` as a natural number: the total length of the first `i` signatures -/
def bnd (sigs : List (List Nat)) (i : Nat) : Nat := (Concat.ofList sigs).bounds.getD i 0

theorem pB_length (sigs : List (List Nat)) : (pB sigs).length = sigs.length + 1 := by
  unfold pB
  rw [List.length_map, ofList_bounds_length]

theorem pB_length_sub_one (sigs : List (List Nat)) : (((pB sigs).length : Nat) : Int) - 1 = (sigs.length : Int) := by
  rw [pB_length]; omega

theorem pV_length (sigs : List (List Nat)) : (pV sigs).length = sigs.flatten.length := by
  unfold pV Concat.ofList
  rw [List.length_map]

theorem getItem?_pB (sigs : List (List Nat)) (i : Nat) (h : i ≤ sigs.length) :
    Py.getItem? (pB sigs) (i : Int) = some ((bnd sigs i : Nat) : Int) :=
  getItem?_map_nat _ _ 0 (by rw [ofList_bounds_length]; omega)

theorem getItem?_pB_succ (sigs : List (List Nat)) (i : Nat) (h : i < sigs.length) :
    Py.getItem? (pB sigs) ((i : Int) + 1) = some ((bnd sigs (i + 1) : Nat) : Int) := by
  have := getItem?_pB sigs (i + 1) h
  rwa [Int.natCast_add, Int.natCast_one] at this

theorem bnd_eq (sigs : List (List Nat)) (i : Nat) (h : i ≤ sigs.length) : bnd sigs i = (sigs.take i).flatten.length :=
  ofList_bounds_getD sigs i h

theorem bnd_succ (sigs : List (List Nat)) (i : Nat) (h : i < sigs.length) :
    bnd sigs (i + 1) = bnd sigs i + (sigs.getD i []).length := by
  rw [bnd_eq sigs (i + 1) h, bnd_eq sigs i (by omega), List.take_succ_eq_append_getElem h, List.flatten_append, List.length_append,
    List.getElem_eq_getD [], List.flatten_singleton]

theorem bnd_zero (sigs : List (List Nat)) : bnd sigs 0 = 0 :=
  bnd_eq sigs 0 (Nat.zero_le _)

theorem bnd_le_total (sigs : List (List Nat)) (i : Nat) (h : i ≤ sigs.length) : bnd sigs i ≤ sigs.flatten.length := by
  rw [bnd_eq sigs i h]
  conv => rhs; rw [← List.take_append_drop i sigs, List.flatten_append, List.length_append]
  omega

theorem slice_pV (sigs : List (List Nat)) (i : Nat) :
    Py.slice (pV sigs) (some ((bnd sigs i : Nat) : Int)) (some ((bnd sigs (i + 1) : Nat) : Int))
      = (sigs.getD i []).map (fun (x : Nat) => (x : Int)) := by
  rw [slice_nat, ← ofList_getD sigs i]
  unfold pV bnd Concat.get
  rw [List.map_take, List.map_drop]

/-! ### `SignatureArray.uninitialized(sizes)` -/

theorem boundsOf_sizes {α : Type} (b : Nat) (G : List (List α)) :
    CArr.boundsOf (b : Int) (G.map (fun g => ((g.length : Nat) : Int)))
      = (b :: prefixSums b G).map (fun (x : Nat) => (x : Int)) := by
  induction G generalizing b with
  | nil => rfl
  | cons g G ih =>
    rw [List.map_cons, CArr.boundsOf, prefixSums, List.map_cons, ← Int.natCast_add, ih]

theorem boundsOf_eq_pB (G : List (List Nat)) :
    CArr.boundsOf 0 (G.map (fun g => ((g.length : Nat) : Int))) = pB G := by
  have := boundsOf_sizes 0 G
  rw [Int.natCast_zero] at this
  rw [this, pB, ofList_bounds]

theorem pB_getLastD (G : List (List Nat)) : ((pB G).getLastD 0).toNat = G.flatten.length := by
  show ((List.map (fun (x : Nat) => (x : Int)) (Concat.ofList G).bounds).getLastD ((0 : Nat) : Int)).toNat = _
  rw [List.getLastD_map, ofList_bounds_getLastD, Int.toNat_natCast]

theorem uninitialized_sizes (G : List (List Nat)) :
    CArr.uninitialized (G.map (fun g => ((g.length : Nat) : Int)))
      = { values := List.replicate G.flatten.length 0, bounds := pB G } := by
  unfold CArr.uninitialized
  simp only [boundsOf_eq_pB, pB_getLastD]

/-! ### `np.copyto(out[i], x)` into the fresh array -/

theorem putItem_eq (G : List (List Nat)) (vals : List Int) (t : Nat) (ht : t < G.length) (x : List Int) :
    CArr.putItem { values := vals, bounds := pB G } (t : Int) x
      = { values := Py.putSlice vals ((bnd G t : Nat) : Int) ((bnd G (t + 1) : Nat) : Int) x, bounds := pB G } := by
  unfold CArr.putItem
  simp only [getItem?_pB G t (by omega), getItem?_pB_succ G t ht]

/-- one copy into an array with the bounds of `G` and room for all of `G`: the length check passes, bounds and size are kept -/
theorem putItem_ok (G : List (List Nat)) (c : CArr) (hb : c.bounds = pB G) (hv : c.values.length = G.flatten.length)
    (t : Nat) (ht : t < G.length) (x : List Int) (hx : x.length = (G.getD t []).length) :
    c.putItemBad (t : Int) x = false ∧ (c.putItem (t : Int) x).bounds = pB G
      ∧ (c.putItem (t : Int) x).values.length = G.flatten.length := by
  obtain ⟨vals, bnds⟩ := c
  simp only at hb hv
  subst hb
  have h2 : bnd G t + x.length ≤ vals.length := by
    rw [hx, ← bnd_succ G t ht, hv]
    exact bnd_le_total G (t + 1) ht
  refine ⟨?_, ?_, ?_⟩
  · unfold CArr.putItemBad
    simp only [getItem?_pB G t (Nat.le_of_lt ht), getItem?_pB_succ G t ht, slice_nat, List.length_take, List.length_drop,
      decide_eq_false_iff_not, Decidable.not_not]
    rw [bnd_succ G t ht, ← hx, Nat.add_sub_cancel_left, Nat.min_eq_left (Nat.le_sub_of_add_le' h2)]
  · rw [putItem_eq G vals t ht x]
  · rw [putItem_eq G vals t ht x]
    show (Py.putSlice vals ((bnd G t : Nat) : Int) ((bnd G (t + 1) : Nat) : Int) x).length = _
    rw [putSlice_nat]
    simp only [List.length_append, List.length_take, List.length_drop]
    omega

/-- copying the segments `f j` (`j` running through `js`) into positions `k, k+1, …` of an array whose bounds from position `k` on are the
cumulative sizes starting at `a`: the values from `a` on become the concatenation of the segments -/
theorem foldl_putItem (f : Nat → List Nat) (js : List Nat) (k a : Nat) (pre : List Int) (c : CArr)
    (hk : pre.length = k)
    (hb : c.bounds = pre ++ CArr.boundsOf (a : Int) (js.map (fun j => (((f j).length : Nat) : Int))))
    (hv : c.values.length = a + ((js.map f).flatten).length) :
    let r := (enumerateFrom k (js.map (fun (j : Nat) => (j : Int)))).foldl
      (fun (c : CArr) (x : Int × Int) => c.putItem x.1 ((f x.2.toNat).map (fun (v : Nat) => (v : Int)))) c
    r.values = c.values.take a ++ ((js.map f).flatten).map (fun (v : Nat) => (v : Int)) ∧ r.bounds = c.bounds := by
  induction js generalizing k a pre c with
  | nil =>
    refine ⟨?_, rfl⟩
    simp only [List.map_nil, enumerateFrom, List.foldl_nil, List.flatten_nil, List.append_nil]
    rw [List.take_of_length_le]
    simp only [List.map_nil, List.flatten_nil, List.length_nil] at hv
    omega
  | cons j js ih =>
    simp only [List.map_cons, enumerateFrom, List.foldl_cons, Int.toNat_natCast, List.flatten_cons, List.map_append]
    simp only [List.map_cons, CArr.boundsOf, List.flatten_cons, List.length_append] at hb hv
    have g1 : Py.getItem? c.bounds (k : Int) = some (a : Int) := by
      rw [getItem?_nat, hb, List.getElem?_append_right (by omega), hk, Nat.sub_self]
      rfl
    have g2 : Py.getItem? c.bounds ((k : Int) + 1) = some ((a : Int) + (((f j).length : Nat) : Int)) := by
      have : ((k : Int) + 1) = ((k + 1 : Nat) : Int) := by omega
      rw [this, getItem?_nat, hb, List.getElem?_append_right (by omega), hk]
      have : k + 1 - k = 1 := by omega
      rw [this, List.getElem?_cons_succ]
      cases js <;> rfl
    have hc' : c.putItem (k : Int) ((f j).map (fun (v : Nat) => (v : Int)))
        = { values := c.values.take a ++ (f j).map (fun (v : Nat) => (v : Int)) ++ c.values.drop (a + (f j).length),
            bounds := c.bounds } := by
      unfold CArr.putItem
      simp only [g1, g2]
      rw [putSlice_nat, List.length_map]
    rw [hc']
    obtain ⟨r1, r2⟩ := ih (k + 1) (a + (f j).length) (pre ++ [(a : Int)])
      { values := c.values.take a ++ (f j).map (fun (v : Nat) => (v : Int)) ++ c.values.drop (a + (f j).length),
        bounds := c.bounds }
      (by rw [List.length_append, hk]; rfl)
      (by
        show c.bounds = _
        rw [hb, List.append_assoc, Int.natCast_add]
        rfl)
      (by
        show (_ ++ _ ++ _ : List Int).length = _
        simp only [List.length_append, List.length_take, List.length_drop, List.length_map]
        omega)
    refine ⟨?_, r2⟩
    rw [r1]
    show (_ ++ _ ++ _ : List Int).take _ ++ _ = _
    have hl : (c.values.take a ++ (f j).map (fun (v : Nat) => (v : Int))).length = a + (f j).length := by
      simp only [List.length_append, List.length_take, List.length_map]
      omega
    rw [List.take_append_of_le_length (by omega), List.take_of_length_le (by omega), List.append_assoc]

/-- the whole copy loop of `_getitem_int_array`, started on the fresh array -/
theorem copy_all (f : Nat → List Nat) (js : List Nat) :
    (enumerate (js.map (fun (j : Nat) => (j : Int)))).foldl
        (fun (c : CArr) (x : Int × Int) => c.putItem x.1 ((f x.2.toNat).map (fun (v : Nat) => (v : Int))))
        { values := List.replicate (js.map f).flatten.length 0, bounds := pB (js.map f) }
      = { values := pV (js.map f), bounds := pB (js.map f) } := by
  have h := foldl_putItem f js 0 0 [] { values := List.replicate (js.map f).flatten.length 0, bounds := pB (js.map f) } rfl
    (by
      show pB (js.map f) = _
      rw [← boundsOf_eq_pB, List.map_map]
      rfl)
    (by
      show (List.replicate _ _).length = _
      rw [List.length_replicate, Nat.zero_add])
  obtain ⟨h1, h2⟩ := h
  unfold enumerate
  generalize List.foldl _ _ _ = r at h1 h2
  obtain ⟨rv, rb⟩ := r
  simp only at h1 h2
  rw [h1, h2]
  simp only [List.take_zero, List.nil_append]
  rfl

/-- the two arrays built by the fast path of `_getitem_slice`, read back as a `Concat`, are the model's view -/
theorem view_eq (sigs : List (List Nat)) (s e : Nat) :
    ({ values := (Py.slice (pV sigs) (some ((bnd sigs s : Nat) : Int)) (some ((bnd sigs e : Nat) : Int))).map Int.toNat,
       bounds := ((Py.slice (pB sigs) (some (s : Int)) (some ((e : Int) + 1))).map
          (fun (x_ : Int) => x_ - ((bnd sigs s : Nat) : Int))).map Int.toNat } : Concat)
      = (Concat.ofList sigs).sliceView s e := by
  have h1 : ((e : Int) + 1) = ((e + 1 : Nat) : Int) := by omega
  rw [h1, slice_nat, slice_nat]
  unfold Concat.sliceView pV pB bnd
  simp only [← List.map_drop, ← List.map_take, List.map_map]
  congr 1
  · exact List.map_id'' Int.toNat_natCast _
  · apply List.map_congr_left
    intro x _
    exact Int.toNat_sub x _

end GambitV.TieConcat
