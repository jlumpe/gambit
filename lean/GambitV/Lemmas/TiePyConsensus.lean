import GambitV.Lemmas.PyRt
import GambitV.Lemmas.Lineage
import GambitV.Lemmas.Consensus

/-!
For the tie of `consensus_taxon`: the loop body as the code is written, `stepNode` on `(trunk, split)` with `trunk`
a lineage (bottom to top), is the model's `consensusStep` on root-first paths (`stepNode_consensusStep`).
-/
namespace GambitV

theorem eraseDups_of_nodup {α : Type} [BEq α] [LawfulBEq α] : ∀ {l : List α}, l.Nodup → l.eraseDups = l
  | [], _ => by simp
  | a :: l, h => by
    rw [List.eraseDups_cons]
    have ha : a ∉ l := (List.nodup_cons.mp h).1
    have hl : l.Nodup := (List.nodup_cons.mp h).2
    have hf : l.filter (fun b => !b == a) = l := by
      apply List.filter_eq_self.mpr
      intro b hb
      have : b ≠ a := fun e => ha (e ▸ hb)
      simp [this]
    rw [hf, eraseDups_of_nodup hl]

/-- the test `c in x.ancestors(incself=True)` is the model's prefix test on root-first paths -/
theorem lineage_contains {F : Forest} (hF : ForestWF F) (hpos : 0 < F.size) (c x : Nat) :
    (F.lineage x).contains c = isPrefix (F.path c) (F.path x) := by
  rw [Bool.eq_iff_iff, isPrefix_iff, List.contains_iff_mem]
  exact mem_lineage_iff_prefix hF hpos

end GambitV

namespace GambitV.TieCons
open GambitV

/-- The `try … index … break` part of the inner loop, once an ancestor `a` of `taxon` lying in `trunk`
is found. -/
def meetAt (F : Forest) (ts : List Nat × Bool) (taxon a : Nat) : List Nat × Bool :=
  let i := (Py.index? ts.1 a).getD 0
  if i = 0 then (if !ts.2 then (F.lineage taxon, ts.2) else ts)
  else (ts.1.drop i, true)

/-- One iteration of the merge loop of `consensus_taxon` as the code is written: `trunk` is the list
of the consensus taxon and its ancestors (bottom to top); `none` = the `for … else` clause returns. -/
def stepNode (F : Forest) (ts : List Nat × Bool) (taxon : Nat) : Option (List Nat × Bool) :=
  if ts.1.contains taxon then some ts
  else
    match (F.properAncestors taxon).find? (fun a => ts.1.contains a) with
    | none => none
    | some a => some (meetAt F ts taxon a)

/-- `stepNode` on `(lineage c, split)` is `consensusStep` on `(path c, split)`. -/
theorem stepNode_consensusStep (F : Forest) (hF : ForestWF F) {c x : Nat} (hc : c < F.size)
    (hx : x < F.size) (sp : Bool) :
    match stepNode F (F.lineage c, sp) x with
    | some (tr', sp') => ∃ c', c' < F.size ∧ tr' = F.lineage c' ∧
        consensusStep { c := F.path c, split := sp } (F.path x) = some { c := F.path c', split := sp' }
    | none => consensusStep { c := F.path c, split := sp } (F.path x) = none := by
  have hpos : 0 < F.size := Nat.zero_lt_of_lt hc
  unfold stepNode meetAt consensusStep
  simp only [List.contains_eq_mem]
  by_cases hmem : x ∈ F.lineage c
  · -- taxon in trunk
    have hpre := (isPrefix_iff _ _).mpr ((mem_lineage_iff_prefix hF hpos).mp hmem)
    simp only [hmem, decide_true, if_true, hpre]
    exact ⟨c, hc, rfl, rfl⟩
  · have hpre : isPrefix (F.path x) (F.path c) = false :=
      (isPrefix_false_iff _ _).mpr (fun h => hmem ((mem_lineage_iff_prefix hF hpos).mpr h))
    simp only [hmem, decide_false, hpre]
    have hlx : F.lineage x = x :: F.properAncestors x := by
      unfold Forest.properAncestors
      rw [lineage_unfold hF hpos]; rfl
    cases hfind : (F.properAncestors x).find? (fun a => decide (a ∈ F.lineage c)) with
    | none =>
      -- for/else: no ancestor of the taxon lies in the trunk
      have hnone := List.find?_eq_none.mp hfind
      have hdisj : ∀ y ∈ F.path x, y ∉ F.path c := by
        intro y hy hyc
        rw [mem_path] at hy hyc
        rw [hlx] at hy
        rcases List.mem_cons.mp hy with e | m
        · exact hmem (e ▸ hyc)
        · have := hnone y m
          simp at this
          exact this hyc
      simp [lcp_eq_nil_of_disjoint hdisj]
    | some a =>
      obtain ⟨hac, as, bs, eanc, has⟩ := List.find?_eq_some_iff_append.mp hfind
      have hac : a ∈ F.lineage c := by simpa using hac
      -- the lineage of the taxon: `x :: as` below `a`, then the lineage of `a`
      have ex : F.lineage x = (x :: as) ++ a :: bs := by rw [hlx, eanc]; rfl
      have ha : a < F.size := mem_lineage_lt_size hF hc hac
      -- the trunk: `pre` below `a`, then the lineage of `a`
      obtain ⟨pre, rest, ec, hidx⟩ := Py.index?_of_mem hac
      have hpc := path_eq_append hF ec
      have hpx := path_eq_append hF ex
      have hdisj : ∀ y ∈ (x :: as).reverse, y ∉ pre.reverse := by
        intro y hy hyp
        have hyc : y ∈ F.lineage c := by
          rw [ec]; exact List.mem_append_left _ (List.mem_reverse.mp hyp)
        rcases List.mem_cons.mp (List.mem_reverse.mp hy) with e | m
        · exact hmem (e ▸ hyc)
        · have := has y m
          simp at this
          exact this hyc
      have hlcp : lcp (F.path c) (F.path x) = F.path a := by
        rw [hpc, hpx, lcp_append_left, lcp_eq_nil_of_disjoint hdisj, List.append_nil]
      have hne : F.path a ≠ [] := path_ne_nil F hpos a
      simp only [hlcp, hne, if_false, hidx, Option.getD_some]
      by_cases hi : pre.length = 0
      · -- the trunk is met at index 0: `a = c`
        have hpre : pre = [] := List.eq_nil_of_length_eq_zero hi
        subst hpre
        have hca : c = a := by
          have h1 := lineage_head? F hpos c
          rw [ec] at h1
          simpa using h1.symm
        subst hca
        simp only [List.length_nil, if_true]
        cases sp with
        | true => exact ⟨c, hc, rfl, rfl⟩
        | false => exact ⟨x, hx, rfl, rfl⟩
      · -- the trunk is met further up
        have hne' : F.path a ≠ F.path c := by
          intro e
          have := congrArg List.length e
          rw [hpc, List.length_append, List.length_reverse] at this
          exact hi (Nat.add_eq_left.1 this.symm)
        simp only [hi, hne', if_false]
        refine ⟨a, ha, ?_, rfl⟩
        rw [ec, List.drop_left, lineage_suffix hF ec]

end GambitV.TieCons
