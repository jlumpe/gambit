import GambitV.Model.Cli

/-!
The file labels of `Model/Cli.lean` (`get_file_id`): `stripExtensions` removes the first extension of the tuple that the name ends
with (`stripExtensions_find`), `basename` what precedes the last `/`.  Core Lean only.
-/
namespace GambitV
namespace Cli

theorem endsWith_iff (s ext : List Char) : endsWith s ext = true ↔ ext <:+ s := by
  unfold endsWith
  constructor
  · intro h
    rw [Bool.and_eq_true] at h
    exact List.suffix_iff_eq_drop.2 (eq_of_beq h.2).symm
  · intro h
    simp [h.length_le, ← List.suffix_iff_eq_drop.1 h]

theorem endsWith_append_false {s e e' : List Char} (h1 : endsWith e e' = false) (h2 : endsWith e' e = false) :
    endsWith (s ++ e) e' = false := by
  rw [← Bool.not_eq_true, endsWith_iff] at *
  exact fun h => (List.suffix_or_suffix_of_suffix h (List.suffix_append s e)).elim h1 h2

theorem stripExtensions_find (s : List Char) (exts : List (List Char)) :
    stripExtensions s exts =
      (match exts.find? (fun e => endsWith s e) with
       | some e => s.take (s.length - e.length)
       | none => s) := by
  induction exts with
  | nil => rfl
  | cons e rest ih =>
    rw [stripExtensions, List.find?_cons]
    cases he : endsWith s e with
    | true => simp only [if_true]
    | false => simpa only [Bool.false_eq_true, if_false] using ih

theorem stripExtensions_none (s : List Char) (exts : List (List Char))
    (h : ∀ e ∈ exts, endsWith s e = false) : stripExtensions s exts = s := by
  rw [stripExtensions_find, List.find?_eq_none.2 (by simpa using h)]

/-- `strip_extensions` removes `ext` when it is in the tuple and no *other* member of the tuple is a
suffix of the name. -/
theorem stripExtensions_append (s ext : List Char) (exts : List (List Char)) (hmem : ext ∈ exts)
    (hno : ∀ e' ∈ exts, e' ≠ ext → endsWith (s ++ ext) e' = false) :
    stripExtensions (s ++ ext) exts = s := by
  have hext : endsWith (s ++ ext) ext = true := (endsWith_iff _ _).2 (List.suffix_append s ext)
  rw [stripExtensions_find]
  cases hf : exts.find? (fun e => endsWith (s ++ ext) e) with
  | none => exact absurd hext (List.find?_eq_none.1 hf ext hmem)
  | some e =>
    have he : e = ext := Decidable.byContradiction fun hne => by
      have := List.find?_some hf
      rw [hno e (List.mem_of_find?_eq_some hf) hne] at this
      cases this
    subst he
    simp

/-- no FASTA extension is a suffix of another one -/
theorem fasta_incomparable :
    ∀ e ∈ fastaExts, ∀ e' ∈ fastaExts, e' ≠ e → endsWith e e' = false ∧ endsWith e' e = false := by
  decide

/-- `.gz` and a FASTA extension: neither is a suffix of the other -/
theorem gz_incomparable :
    ∀ e ∈ fastaExts, endsWith e ".gz".toList = false ∧ endsWith ".gz".toList e = false := by
  decide

theorem fasta_no_slash : ∀ e ∈ fastaExts, '/' ∉ e := by decide

theorem stripExtensions_fasta (stem ext : List Char) (hext : ext ∈ fastaExts) :
    stripExtensions (stem ++ ext) fastaExts = stem :=
  stripExtensions_append _ _ _ hext fun e' he' hne =>
    endsWith_append_false (fasta_incomparable ext hext e' he' hne).1 (fasta_incomparable ext hext e' he' hne).2

theorem stripExtensions_gz_none (stem ext : List Char) (hext : ext ∈ fastaExts) :
    stripExtensions (stem ++ ext) gzipExts = stem ++ ext := by
  apply stripExtensions_none
  intro e he
  obtain rfl : e = ".gz".toList := by simpa [gzipExts] using he
  exact endsWith_append_false (gz_incomparable ext hext).1 (gz_incomparable ext hext).2

theorem stripSeqExt_spec (stem ext : List Char) (hext : ext ∈ fastaExts) (gz : Bool) :
    stripSeqExt (stem ++ ext ++ (if gz then ".gz".toList else [])) = stem := by
  unfold stripSeqExt
  cases gz
  · simp only [Bool.false_eq_true, if_false, List.append_nil]
    rw [stripExtensions_gz_none stem ext hext, stripExtensions_fasta stem ext hext]
  · simp only [if_true]
    have : stripExtensions (stem ++ ext ++ ".gz".toList) gzipExts = stem ++ ext := by
      apply stripExtensions_append
      · simp [gzipExts]
      · intro e' he' hne
        have : e' = ".gz".toList := by simpa [gzipExts] using he'
        exact absurd this hne
    rw [this, stripExtensions_fasta stem ext hext]

theorem ne_slash_of_not_mem {t : List Char} (h : '/' ∉ t) : ∀ x ∈ t.reverse, (x != '/') = true := by
  intro x hx
  rw [List.mem_reverse] at hx
  rw [bne_iff_ne]
  rintro rfl
  exact h hx

theorem basename_dir (dir t : List Char) (h : '/' ∉ t) : basename (dir ++ ['/'] ++ t) = t := by
  unfold basename
  have e : (dir ++ ['/'] ++ t).reverse = t.reverse ++ '/' :: dir.reverse := by simp
  rw [e, List.takeWhile_append_of_pos (ne_slash_of_not_mem h), List.takeWhile_cons_of_neg (by decide), List.append_nil,
    List.reverse_reverse]

theorem basename_nodir (t : List Char) (h : '/' ∉ t) : basename t = t := by
  unfold basename
  have := List.takeWhile_append_of_pos (l₂ := []) (ne_slash_of_not_mem h)
  rw [List.append_nil] at this
  rw [this, List.takeWhile_nil, List.append_nil, List.reverse_reverse]

theorem name_no_slash (stem ext : List Char) (hext : ext ∈ fastaExts) (gz : Bool) (hstem : '/' ∉ stem) :
    '/' ∉ stem ++ ext ++ (if gz then ".gz".toList else []) := by
  intro h
  rw [List.mem_append, List.mem_append] at h
  rcases h with (h | h) | h
  · exact hstem h
  · exact fasta_no_slash ext hext h
  · cases gz
    · simp at h
    · revert h; simp only [if_true]; decide

end Cli

end GambitV
