import GambitV.Model.Kmers

/-! Per-byte facts about `nucCode`, `comp`, `upperByte`, `nucLetter`, all obtained from one classification of the
bytes (`byte_cases`), and the equations of `encodeFrom` for a general accumulator.  Core Lean only. -/
namespace GambitV

/-- Quantification over all 256 bytes reduces to a decidable bounded quantification. -/
theorem forall_byte (P : UInt8 → Prop) (h : ∀ n : Fin 256, P (UInt8.ofNat n.val)) : ∀ b, P b := by
  intro b
  have := h ⟨b.toNat, b.toNat_lt⟩
  simpa using this

theorem list_snoc_induction {α : Type} {P : List α → Prop} (nil : P [])
    (snoc : ∀ s a, P s → P (s ++ [a])) : ∀ s, P s := by
  intro s
  have h : ∀ r : List α, P r.reverse := by
    intro r
    induction r with
    | nil => simpa using nil
    | cons a r ih => simpa using snoc _ a ih
  simpa using h s.reverse

/-- A byte that plays no part in k-mers: it has no digit and `comp` leaves it alone. -/
abbrev Inert (b : UInt8) : Prop := nucCode b = none ∧ comp b = b

/-- The one fact checked over the whole byte range by the kernel: a byte is inert and stays so when
upper-cased, or it is one of the eight nucleotide letters. -/
theorem byte_cases (b : UInt8) :
    (Inert b ∧ Inert (upperByte b)) ∨ b ∈ [65, 67, 71, 84, 97, 99, 103, 116] := by
  revert b; apply forall_byte; decide +kernel

/-- A per-byte fact is checked on the eight letters and argued for the inert bytes. -/
theorem byte_rec {P : UInt8 → Prop} (nuc : ∀ b ∈ [65, 67, 71, 84, 97, 99, 103, 116], P b)
    (inert : ∀ b, Inert b → Inert (upperByte b) → P b) (b : UInt8) : P b :=
  (byte_cases b).elim (fun h => inert b h.1 h.2) (nuc b)

theorem comp_comp : ∀ b, comp (comp b) = b :=
  byte_rec (by decide) fun b h _ => by rw [h.2, h.2]

theorem nucCode_lt (b : UInt8) (d : Nat) (h : nucCode b = some d) : d < 4 := by
  have key : ∀ b, (nucCode b).all (· < 4) = true :=
    byte_rec (by decide) fun b hi _ => by rw [hi.1]; rfl
  have := key b
  rw [h] at this
  simpa using this

theorem nucCode_comp : ∀ b, nucCode (comp b) = (nucCode b).map (3 - ·) :=
  byte_rec (by decide) fun b h _ => by rw [h.2, h.1]; rfl

theorem nucCode_upperByte : ∀ b, nucCode (upperByte b) = nucCode b :=
  byte_rec (by decide) fun b h hu => by rw [h.1, hu.1]

theorem upperByte_comp : ∀ b, upperByte (comp b) = comp (upperByte b) :=
  byte_rec (by decide) fun b h hu => by rw [h.2, hu.2]

theorem nucCode_eq_none_iff : ∀ b, nucCode b = none ↔ b ∉ [65, 67, 71, 84, 97, 99, 103, 116] :=
  byte_rec (by decide) fun b h _ => by
    have : ∀ c ∈ [65, 67, 71, 84, 97, 99, 103, 116], nucCode c ≠ none := by decide
    exact ⟨fun _ hm => this b hm h.1, fun _ => h.1⟩

theorem nucLetter_nucCode (b : UInt8) (d : Nat) (h : nucCode b = some d) : nucLetter d = upperByte b :=
  -- the bound `d < 4` makes the check on the eight letters decidable
  byte_rec (P := fun b => ∀ d < 4, nucCode b = some d → nucLetter d = upperByte b) (by decide)
    (fun b hi _ d _ h => by rw [hi.1] at h; cases h) b d (nucCode_lt b d h) h

/-- The last base-4 digit of `a * 4 + d`. -/
theorem div_mod_digit (a d : Nat) (hd : d < 4) : (a * 4 + d) / 4 = a ∧ (a * 4 + d) % 4 = d := by
  omega

theorem nucCode_nucLetter : ∀ d < 4, nucCode (nucLetter d) = some d := by decide

theorem comp_acgt : ∀ b ∈ [65, 67, 71, 84], comp b ∈ [65, 67, 71, 84] := by decide

/-- The hypothesis is the test of `haystack` failing on `b`. -/
theorem upperByte_eq_acgt_iff : ∀ b, (b == 97 || b == 99 || b == 103 || b == 116) = false →
    ∀ p ∈ [65, 67, 71, 84], (upperByte b = p ↔ b = p) :=
  byte_rec (by decide) fun b h hu _ p hp => by
    have : ∀ p ∈ [65, 67, 71, 84], nucCode p ≠ none := by decide
    exact ⟨fun e => absurd (e ▸ hu.1) (this p hp), fun e => absurd (e ▸ h.1) (this p hp)⟩

theorem encodeFrom_append (acc : Nat) (s t : List UInt8) :
    encodeFrom acc (s ++ t) = (encodeFrom acc s).bind (fun a => encodeFrom a t) := by
  induction s generalizing acc with
  | nil => simp [encodeFrom]
  | cons b s ih =>
    simp only [List.cons_append, encodeFrom]
    cases nucCode b with
    | none => simp
    | some d => simp [ih]

theorem encodeFrom_eq (acc : Nat) (s : List UInt8) :
    encodeFrom acc s = (encodeFrom 0 s).map (acc * 4 ^ s.length + ·) := by
  induction s generalizing acc with
  | nil => simp [encodeFrom]
  | cons b s ih =>
    simp only [encodeFrom, List.length_cons]
    cases nucCode b with
    | none => rfl
    | some d =>
      simp only [ih (acc * 4 + d), ih (0 * 4 + d), Option.map_map]
      congr 1
      funext r
      simp only [Function.comp, Nat.pow_succ, Nat.add_mul, Nat.zero_mul, Nat.mul_assoc, Nat.mul_comm 4]
      omega

theorem encodeFrom_none_iff (acc : Nat) (s : List UInt8) :
    encodeFrom acc s = none ↔ ∃ b ∈ s, nucCode b = none := by
  induction s generalizing acc with
  | nil => simp [encodeFrom]
  | cons b s ih =>
    simp only [encodeFrom, List.mem_cons, exists_eq_or_imp]
    cases hb : nucCode b with
    | none => simp
    | some d => simp [ih]

theorem encodeFrom_map_upper (acc : Nat) (s : List UInt8) :
    encodeFrom acc (s.map upperByte) = encodeFrom acc s := by
  induction s generalizing acc with
  | nil => rfl
  | cons b s ih =>
    simp only [List.map_cons, encodeFrom, nucCode_upperByte]
    cases nucCode b <;> simp [ih]

theorem encodeFrom_map_comp (acc : Nat) (s : List UInt8) :
    encodeFrom acc (s.map comp) = encodeCompFrom acc s := by
  induction s generalizing acc with
  | nil => rfl
  | cons b s ih =>
    simp only [List.map_cons, encodeFrom, encodeCompFrom, nucCode_comp]
    cases nucCode b <;> simp [ih]

theorem encode_snoc (s : List UInt8) (b : UInt8) :
    encode (s ++ [b]) = (encode s).bind (fun a => (nucCode b).map (fun d => a * 4 + d)) := by
  unfold encode
  rw [encodeFrom_append]
  cases encodeFrom 0 s with
  | none => rfl
  | some a =>
    simp only [Option.bind_some, encodeFrom]
    cases nucCode b <;> rfl

end GambitV
