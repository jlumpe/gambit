import Lean.Meta.Tactic.Simp.RegisterCommand

/-- `simp only [json_walk, String.reduceEq]` runs the attribute walks, rule lookups and member lookups of `Model/Json.lean` on records
and rule tables whose keys are string literals; keys are compared as strings, never decoded (see `lookup_cons_toList`). -/
register_simp_attr json_walk
