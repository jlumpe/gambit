import GambitV.Lemmas.PyRt
import GambitV.Lemmas.Schedule

/-!
Helper lemmas for the tie of the translated `calc_file_signatures` (`GambitV.Tie.PyCalcFiles`, from gambit/sigs/calc.py) to the
model `Model/Schedule.lean`.  Nothing here mentions the generated term: the dictionary `future_to_index` built over
`enumerate(range(n))` and the loop rule (a loop whose body uses one task's result or re-raises its exception is `mapM`).
-/
namespace GambitV.TieCalc
open GambitV GambitV.Py

/-- `enumerate(files)` for the files `0 … n-1` -/
theorem enumerate_range (n : Nat) : enumerate (List.range n) = (List.range n).map (fun (i : Nat) => ((i : Int), i)) := by
  rw [enumerate_eq_mapIdx]
  apply List.ext_getElem
  · simp
  · intro i h₁ h₂
    simp

/-- the dictionary after `for i, file in enumerate(files): future_to_index[future] = i` (the future of file `f` is `f`) -/
def futDict (n : Nat) : List (Nat × Int) := (List.range n).map (fun f => (f, (f : Int)))

theorem futDict_keys (n : Nat) : (futDict n).map (·.1) = List.range n := by
  unfold futDict
  rw [List.map_map]
  exact List.map_id _

/-- the submission loop as a fold builds `futDict n` -/
theorem foldl_dictSet_range (n : Nat) :
    ((List.range n).map (fun (i : Nat) => ((i : Int), i))).foldl (fun d p => dictSet d p.2 p.1) [] = futDict n := by
  rw [← dictFromPairs_nodup (futDict n) (by rw [futDict_keys]; exact List.nodup_range), dictFromPairs, futDict,
    List.foldl_map, List.foldl_map]

theorem dictGet?_map_self {ν : Type} (g : Nat → ν) (l : List Nat) (x : Nat) (hx : x ∈ l) :
    dictGet? (l.map (fun f => (f, g f))) x = some (g x) := by
  induction l with
  | nil => cases hx
  | cons a l ih =>
    rw [List.map_cons]
    by_cases h : a = x
    · subst h
      simp [dictGet?]
    · have hx' : x ∈ l := by
        rcases List.mem_cons.1 hx with e | e
        · exact absurd e.symm h
        · exact e
      simp [dictGet?, h, ih hx']

/-- `future_to_index[future]` is the index of the future's file -/
theorem dictGet?_futDict (n x : Nat) (hx : x < n) : dictGet? (futDict n) x = some (x : Int) :=
  dictGet?_map_self (fun f => (f : Int)) _ x (List.mem_range.2 hx)

/-- `as_completed` yields the submitted futures: with a permutation schedule, all of `σ` -/
theorem filter_keys (n : Nat) (σ : List Nat) (hσ : σ.Perm (List.range n)) :
    σ.filter (fun f => ((futDict n).map (·.1)).contains f) = σ := by
  rw [futDict_keys, List.filter_eq_self]
  intro a ha
  rw [List.contains_iff_mem]
  exact hσ.mem_iff.1 ha

/-- A loop that runs the tasks `xs` in order, then `f`: on a task that succeeds the body falls through and advances an invariant
indexed by the tasks done so far, on one that fails it raises `e0`.  The loop then is `xs.mapM result`, and the function's value a
function `V` of its outcome: `V (.ok vs)` is what `f` returns from a state satisfying the invariant at `xs`, `V (.error _)` is `e0`. -/
theorem finish_bind_tasks {σ ρ ε β : Type} {xs : List Nat} {body : Nat → σ → M σ ρ σ} {s : σ} {f : σ × Bool → M σ ρ σ}
    {d : σ → Res ρ} (result : Nat → Except ε β) (e0 : Exc) (I : List Nat → σ → Prop) (V : Except ε (List β) → Res ρ)
    (hOk : ∀ pre x s v, x ∈ xs → I pre s → result x = .ok v → ∃ s', body x s = .ok s' ∧ I (pre ++ [x]) s')
    (hErr : ∀ pre x s e, x ∈ xs → I pre s → result x = .error e → body x s = .error (.exc e0))
    (h0 : I [] s) (hk : ∀ vs s', xs.mapM result = .ok vs → I xs s' → finish d (f (s', true)) = V (.ok vs))
    (he : ∀ e, V (.error e) = .raised e0) :
    finish d (forEach xs body s >>= f) = V (xs.mapM result) := by
  -- the induction of `Py.forEach_inv` (invariant indexed by the consumed prefix), with the alternative that rule has not: the body raises
  suffices H : ∀ (post pre : List Nat) (s : σ), xs = pre ++ post → I pre s →
      match post.mapM result with
      | .ok _ => ∃ s', forEach post body s = .ok (s', true) ∧ I xs s'
      | .error _ => forEach post body s = .error (.exc e0) by
    have := H xs [] s rfl h0
    cases hm : xs.mapM result with
    | error e =>
      rw [hm] at this
      rw [this, he]
      rfl
    | ok vs =>
      rw [hm] at this
      obtain ⟨s', e, hI⟩ := this
      rw [e]
      exact hk vs s' hm hI
  intro post
  induction post with
  | nil =>
    intro pre s e hI
    rw [e, List.append_nil]
    exact ⟨s, rfl, hI⟩
  | cons x post ih =>
    intro pre s e hI
    have hx : x ∈ xs := by
      rw [e]
      exact List.mem_append_right _ (List.mem_cons_self ..)
    rw [mapM_except_cons, forEach_cons]
    cases hr : result x with
    | error err => rw [hErr pre x s err hx hI hr]
    | ok v =>
      obtain ⟨s', h1, h2⟩ := hOk pre x s v hx hI hr
      have := ih (pre ++ [x]) s' (by rw [e, List.append_assoc, List.singleton_append]) h2
      rw [h1]
      cases hm : post.mapM result with
      | error err =>
        rw [hm] at this
        exact this
      | ok vs =>
        rw [hm] at this
        exact this

end GambitV.TieCalc
