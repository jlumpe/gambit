import GambitV.Model.Export
import GambitV.Lemmas.ListAux

/-!
The archive of `Model/Export.lean` keeps keys only.  What has to be in the genome set for an item to be read back is said with the
lists of what occurs in it (`itemTaxa`, `itemGenomes`, `itemMatches`): the genome set has to resolve their keys to them
(`readItem_toKeys`), which it does when its keys are unique and it holds them (`find?_key`, `Lemmas/ListAux.lean`).  Core Lean only.
-/
namespace GambitV
namespace Export

/-- the taxa a match refers to: its matched taxon, if it has one -/
def matchTaxa (m : MatchRec) : List TaxonRec := m.matched.toList

/-- every match of an item: the closest one, the primary one, and the closest-genomes list -/
def itemMatches (it : ItemRec) : List MatchRec :=
  it.closestMatch :: (it.primary.toList ++ it.closestGenomes)

/-- every taxon occurring in an item: report, next, predicted, and the matched taxon of every match -/
def itemTaxa (it : ItemRec) : List TaxonRec :=
  it.report.toList ++ it.next.toList ++ it.predicted.toList ++ (itemMatches it).flatMap matchTaxa

def itemGenomes (it : ItemRec) : List GenomeRec := (itemMatches it).map (·.genome)

theorem taxon_key (db : Db) (hT : (db.taxa.map (·.key)).Nodup) (t : TaxonRec) (ht : t ∈ db.taxa) :
    db.taxon t.key = some t :=
  find?_key TaxonRec.key hT ht

theorem genome_key (db : Db) (hG : (db.genomes.map (·.key)).Nodup) (g : GenomeRec)
    (hg : g ∈ db.genomes) : db.genome g.key = some g :=
  find?_key GenomeRec.key hG hg

theorem readOptTaxon_key (db : Db) (o : Option TaxonRec) (ho : ∀ t ∈ o.toList, db.taxon t.key = some t) :
    readOptTaxon db (o.map (·.key)) = some o := by
  cases o with
  | none => rfl
  | some t => simp [readOptTaxon, ho t (by simp)]

theorem readMatch_toKeys (db : Db) (render : Nat → List Char) (m : MatchRec)
    (hg : db.genome m.genome.key = some m.genome) (ht : ∀ t ∈ matchTaxa m, db.taxon t.key = some t)
    (htext : m.distanceText = render m.distanceBits) :
    readMatch db render m.toKeys = some m := by
  obtain ⟨g, bits, text, matched⟩ := m
  simp only at hg htext
  subst htext
  cases matched with
  | none => simp [readMatch, MatchRec.toKeys, hg]
  | some t => simp [readMatch, MatchRec.toKeys, hg, ht t (by simp [matchTaxa])]

theorem readOptMatch_toKeys (db : Db) (render : Nat → List Char) (o : Option MatchRec)
    (h : ∀ m ∈ o.toList, readMatch db render m.toKeys = some m) :
    (match o.map MatchRec.toKeys with
      | none => some none
      | some m => (readMatch db render m).map some) = some o := by
  cases o with
  | none => rfl
  | some m => simp [h m (by simp)]

theorem mem_itemMatches {it : ItemRec} {m : MatchRec} :
    m ∈ itemMatches it ↔ m = it.closestMatch ∨ it.primary = some m ∨ m ∈ it.closestGenomes := by
  simp [itemMatches, Option.mem_toList]

theorem mem_itemTaxa {it : ItemRec} {t : TaxonRec} :
    t ∈ itemTaxa it ↔
      t ∈ it.report.toList ∨ t ∈ it.next.toList ∨ t ∈ it.predicted.toList ∨ ∃ m ∈ itemMatches it, t ∈ matchTaxa m := by
  simp only [itemTaxa, List.mem_append, List.mem_flatMap, or_assoc]

/-- The stored keys are read back to the item by any genome set that resolves the key of every taxon and genome occurring in the item
to that object. -/
theorem readItem_toKeys (db : Db) (render : Nat → List Char) (it : ItemRec)
    (hT : ∀ t ∈ itemTaxa it, db.taxon t.key = some t) (hG : ∀ g ∈ itemGenomes it, db.genome g.key = some g)
    (htext : ∀ m ∈ itemMatches it, m.distanceText = render m.distanceBits) :
    readItem db render it.toKeys = some it := by
  have hm : ∀ m ∈ itemMatches it, readMatch db render m.toKeys = some m := fun m hm =>
    readMatch_toKeys db render m (hG _ (List.mem_map_of_mem hm))
      (fun t ht => hT t (mem_itemTaxa.2 (Or.inr (Or.inr (Or.inr ⟨m, hm, ht⟩))))) (htext m hm)
  have h1 := readOptTaxon_key db it.report (fun t ht => hT t (mem_itemTaxa.2 (Or.inl ht)))
  have h2 := readOptTaxon_key db it.next (fun t ht => hT t (mem_itemTaxa.2 (Or.inr (Or.inl ht))))
  have h3 := readOptTaxon_key db it.predicted (fun t ht => hT t (mem_itemTaxa.2 (Or.inr (Or.inr (Or.inl ht)))))
  have h4 := hm it.closestMatch (mem_itemMatches.2 (Or.inl rfl))
  have h6 := mapM_map_some _ _ it.closestGenomes
    (fun m h => hm m (mem_itemMatches.2 (Or.inr (Or.inr h))))
  have h5 : ∀ m, it.primary = some m → readMatch db render m.toKeys = some m :=
    fun m h => hm m (mem_itemMatches.2 (Or.inr (Or.inl h)))
  obtain ⟨label, report, next, cm, primary, predicted, cg, success, warnings, error⟩ := it
  unfold readItem ItemRec.toKeys
  simp only at h1 h2 h3 h4 h5 h6
  cases primary with
  | none => simp only [h1, h2, h3, h4, h6]; rfl
  | some m => simp only [h1, h2, h3, h4, h6, Option.map_some, h5 m rfl]; rfl

end Export
end GambitV
