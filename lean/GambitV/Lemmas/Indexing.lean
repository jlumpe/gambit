import GambitV.Model.Indexing
import GambitV.Lemmas.PrefixSums
import GambitV.Lemmas.ListAux

/-!
The functions of `Model/Indexing.lean` that `__getitem__` is made of (`checkIndex`, `normIndices`, `sliceIndices`, `arange`,
`flatnonzero`), each by one characterisation, and the packed storage `Concat`: its bounds as prefix sums, what well-formed storage is,
and what the contiguous view of it denotes.
-/
namespace GambitV

/-- a test that returns `ok a` or fails with `e` -/
theorem ite_ok_error_eq_ok {ε α : Type} {p : Prop} [Decidable p] {a j : α} {e : ε} :
    (if p then .ok a else .error e : Except ε α) = .ok j ↔ p ∧ a = j := by
  split
  · exact ⟨fun h => ⟨‹p›, Except.ok.inj h⟩, fun h => congrArg Except.ok h.2⟩
  · exact ⟨fun h => (by cases h), fun h => absurd h.1 ‹¬ p›⟩

theorem ite_ok_error_eq_error {ε α : Type} {p : Prop} [Decidable p] {a : α} {e e' : ε} :
    (if p then .ok a else .error e : Except ε α) = .error e' ↔ ¬ p ∧ e = e' := by
  split
  · exact ⟨fun h => (by cases h), fun h => absurd ‹p› h.1⟩
  · exact ⟨fun h => ⟨‹¬ p›, Except.error.inj h⟩, fun h => congrArg Except.error h.2⟩

/-- The wrapped position of a (possibly negative) Python index. -/
def wrapIdx (n : Nat) (i : Int) : Nat := (if i < 0 then i + n else i).toNat

theorem checkIndex_eq (n : Nat) (i : Int) :
    checkIndex n i = if -(n : Int) ≤ i ∧ i < n then .ok (wrapIdx n i) else .error .indexError := by
  unfold checkIndex wrapIdx
  by_cases hi : i < 0
  · simp only [hi, if_true]
    by_cases h : -(n : Int) ≤ i ∧ i < n
    · rw [if_pos h, if_pos (by omega)]
    · rw [if_neg h, if_neg (by omega)]
  · simp only [hi, if_false]
    by_cases h : -(n : Int) ≤ i ∧ i < n
    · rw [if_pos h, if_pos (by omega)]
    · rw [if_neg h, if_neg (by omega)]

theorem checkIndex_in_range (n : Nat) (i : Int) (h1 : -(n : Int) ≤ i) (h2 : i < n) :
    checkIndex n i = .ok (wrapIdx n i) := by
  rw [checkIndex_eq, if_pos ⟨h1, h2⟩]

theorem checkIndex_out_of_range (n : Nat) (i : Int) (h : i < -(n : Int) ∨ i ≥ n) :
    checkIndex n i = .error .indexError := by
  rw [checkIndex_eq, if_neg (by omega)]

theorem checkIndex_ok {n : Nat} {i : Int} {j : Nat} (h : checkIndex n i = .ok j) :
    -(n : Int) ≤ i ∧ i < n ∧ j = wrapIdx n i := by
  rw [checkIndex_eq, ite_ok_error_eq_ok] at h
  exact ⟨h.1.1, h.1.2, h.2.symm⟩

theorem checkIndex_error (n : Nat) (i : Int) (e : IdxErr) :
    checkIndex n i = .error e → e = .indexError ∧ (i ≥ n ∨ i < -(n : Int)) := by
  rw [checkIndex_eq, ite_ok_error_eq_error]
  rintro ⟨hr, rfl⟩
  exact ⟨rfl, by omega⟩

/-- no truncation on an index that is not below `-n` -/
theorem natCast_wrapIdx {n : Nat} {i : Int} (h : -(n : Int) ≤ i) : ((wrapIdx n i : Nat) : Int) = if i < 0 then i + n else i :=
  Int.toNat_of_nonneg (by split <;> omega)

theorem wrapIdx_lt (n : Nat) (i : Int) (h1 : -(n : Int) ≤ i) (h2 : i < n) : wrapIdx n i < n := by
  have := natCast_wrapIdx h1
  split at this <;> omega

theorem wrapIdx_nonneg (n : Nat) (i : Int) (h : 0 ≤ i) : wrapIdx n i = i.toNat := by
  unfold wrapIdx
  rw [if_neg (by omega)]

theorem checkIndex_natCast {n j : Nat} (h : j < n) : checkIndex n (j : Int) = .ok j := by
  rw [checkIndex_in_range n j (by omega) (by omega), wrapIdx_nonneg n j (by omega), Int.toNat_natCast]

theorem checkIndex_ok_lt {n : Nat} {i : Int} {j : Nat} (h : checkIndex n i = .ok j) : j < n := by
  obtain ⟨h1, h2, rfl⟩ := checkIndex_ok h
  exact wrapIdx_lt n i h1 h2

theorem normIndices_nil (n : Nat) : normIndices n [] = .ok [] := rfl

theorem normIndices_eq (n : Nat) (l : List Int) :
    normIndices n l = if ∀ i ∈ l, -(n : Int) ≤ i ∧ i < n then .ok (l.map (wrapIdx n)) else .error .indexError := by
  induction l with
  | nil => rw [if_pos (fun i hi => by cases hi)]; rfl
  | cons i l ih =>
    unfold normIndices at ih ⊢
    rw [List.mapM_cons, checkIndex_eq, ih]
    have hc : (∀ k ∈ i :: l, -(n : Int) ≤ k ∧ k < n) ↔ (-(n : Int) ≤ i ∧ i < n) ∧ ∀ k ∈ l, -(n : Int) ≤ k ∧ k < n :=
      List.forall_mem_cons
    by_cases hi : -(n : Int) ≤ i ∧ i < n
    · by_cases hl : ∀ k ∈ l, -(n : Int) ≤ k ∧ k < n
      · rw [if_pos hi, if_pos hl, if_pos (hc.2 ⟨hi, hl⟩)]; rfl
      · rw [if_pos hi, if_neg hl, if_neg (fun h => hl (hc.1 h).2)]; rfl
    · rw [if_neg hi, if_neg (fun h => hi (hc.1 h).1)]; rfl

theorem normIndices_ok (n : Nat) (l : List Int) (h : ∀ i ∈ l, -(n : Int) ≤ i ∧ i < n) :
    normIndices n l = .ok (l.map (wrapIdx n)) := by
  rw [normIndices_eq, if_pos h]

theorem normIndices_nonneg (n : Nat) (l : List Int) (h : ∀ j ∈ l, 0 ≤ j ∧ j < n) :
    normIndices n l = .ok (l.map Int.toNat) := by
  rw [normIndices_ok n l fun j hj => by have := h j hj; omega]
  exact congrArg Except.ok (List.map_congr_left fun j hj => wrapIdx_nonneg n j (h j hj).1)

theorem normIndices_error (n : Nat) (l : List Int) (h : ∃ i ∈ l, i < -(n : Int) ∨ i ≥ n) :
    normIndices n l = .error .indexError := by
  obtain ⟨i, hi, hr⟩ := h
  rw [normIndices_eq, if_neg (fun h => by have := h i hi; omega)]

theorem normIndices_of_ok {n : Nat} {l : List Int} {js : List Nat} (h : normIndices n l = .ok js) :
    (∀ i ∈ l, -(n : Int) ≤ i ∧ i < n) ∧ js = l.map (wrapIdx n) := by
  rw [normIndices_eq, ite_ok_error_eq_ok] at h
  exact ⟨h.1, h.2.symm⟩

theorem normIndices_lt (n : Nat) (l : List Int) (js : List Nat) (h : normIndices n l = .ok js) :
    ∀ j ∈ js, j < n := by
  obtain ⟨hr, rfl⟩ := normIndices_of_ok h
  intro j hj
  obtain ⟨i, hi, rfl⟩ := List.mem_map.1 hj
  exact wrapIdx_lt n i (hr i hi).1 (hr i hi).2

theorem normIndices_error_kind (n : Nat) (l : List Int) (e : IdxErr) (h : normIndices n l = .error e) : e = .indexError := by
  rw [normIndices_eq, ite_ok_error_eq_error] at h
  exact h.2.symm

theorem adjustBound_pos (n : Nat) (st b : Int) (h : st > 0) :
    0 ≤ adjustBound n st b ∧ adjustBound n st b ≤ n := by
  unfold adjustBound
  dsimp only
  have hs : ¬ st < 0 := by omega
  simp only [hs, if_false]
  split
  · split <;> omega
  · split <;> omega

theorem adjustBound_neg (n : Nat) (st b : Int) (h : st < 0) :
    -1 ≤ adjustBound n st b ∧ adjustBound n st b ≤ (n : Int) - 1 := by
  unfold adjustBound
  simp only [h, if_true]
  split
  · split <;> omega
  · split <;> omega

theorem rangeLen_neg (s e st : Int) (h : st < 0) : rangeLen s e st = rangeLen (-s) (-e) (-st) := by
  unfold rangeLen
  have h1 : ¬ st > 0 := by omega
  have h2 : -st > 0 := by omega
  rw [if_neg h1, if_pos h, if_pos h2]
  by_cases hse : e < s
  · rw [if_pos hse, if_pos (by omega), show -e - -s - 1 = s - e - 1 by omega]
  · rw [if_neg hse, if_neg (by omega)]

theorem lt_rangeLen_pos (s e st : Int) (hp : st > 0) (t : Nat) : t < rangeLen s e st ↔ s + t * st < e := by
  unfold rangeLen
  rw [if_pos hp]
  by_cases hse : s < e
  · rw [if_pos hse, Int.lt_toNat, Int.lt_add_one_iff, Int.le_ediv_iff_mul_le hp]
    omega
  · have hmul : 0 ≤ (t : Int) * st := Int.mul_nonneg (Int.natCast_nonneg t) (Int.le_of_lt hp)
    rw [if_neg hse]
    omega

theorem lt_rangeLen_iff (s e st : Int) (hst : st ≠ 0) (t : Nat) :
    t < rangeLen s e st ↔ (st > 0 → s + t * st < e) ∧ (st < 0 → e < s + t * st) := by
  by_cases hp : st > 0
  · rw [lt_rangeLen_pos s e st hp]
    exact ⟨fun h => ⟨fun _ => h, fun h' => by omega⟩, fun h => h.1 hp⟩
  · have hn : st < 0 := by omega
    rw [rangeLen_neg s e st hn, lt_rangeLen_pos _ _ _ (by omega), Int.mul_neg]
    exact ⟨fun h => ⟨fun h' => by omega, fun _ => by omega⟩, fun h => by have := h.2 hn; omega⟩

/-- With unit step, `arange` is the contiguous run `s, s+1, …, e-1`. -/
theorem arange_one (s e : Int) :
    arange s e 1 = (List.range (e - s).toNat).map (fun (t : Nat) => s + (t : Int)) := by
  unfold arange rangeLen
  rw [if_pos (by decide), Int.ediv_one, Int.sub_add_cancel]
  have : (if s < e then (e - s).toNat else 0) = (e - s).toNat := by split <;> omega
  rw [this]
  exact List.map_congr_left fun t _ => by rw [Int.mul_one]

theorem flatnonzero_cons (b : Bool) (m : List Bool) :
    flatnonzero (b :: m) = (if b then [0] else []) ++ (flatnonzero m).map (· + 1) := by
  unfold flatnonzero
  rw [List.length_cons, List.range_succ_eq_map, List.filter_cons, List.filter_map]
  have : ((fun i => (b :: m).getD i false) ∘ Nat.succ) = (fun i => m.getD i false) := by
    funext i; simp
  rw [this]
  cases b <;> simp

theorem flatnonzero_map_getD {α : Type} (d : α) (m : List Bool) (xs : List α)
    (h : m.length = xs.length) :
    (flatnonzero m).map (fun j => xs.getD j d) = ((xs.zip m).filter (·.2)).map (·.1) := by
  induction m generalizing xs with
  | nil =>
    cases xs with
    | nil => rfl
    | cons x xs => cases h
  | cons b m ih =>
    cases xs with
    | nil => cases h
    | cons x xs =>
      have h' : m.length = xs.length := by simpa using h
      rw [flatnonzero_cons, List.map_append, List.map_map]
      have : ((fun j => (x :: xs).getD j d) ∘ fun x => x + 1) = fun j => xs.getD j d := by
        funext j; simp
      rw [this, ih xs h']
      cases b <;> simp

theorem flatnonzero_lt (m : List Bool) : ∀ j ∈ flatnonzero m, j < m.length := by
  intro j hj
  unfold flatnonzero at hj
  exact List.mem_range.1 (List.mem_filter.1 hj).1

theorem foldl_bounds (acc : List Nat) (sigs : List (List Nat)) :
    sigs.foldl (fun acc s => acc ++ [acc.getLastD 0 + s.length]) acc =
      acc ++ prefixSums (acc.getLastD 0) sigs := by
  induction sigs generalizing acc with
  | nil => simp [prefixSums]
  | cons s r ih =>
    rw [List.foldl_cons, ih]
    simp [prefixSums]

theorem ofList_bounds (sigs : List (List Nat)) :
    (Concat.ofList sigs).bounds = 0 :: prefixSums 0 sigs := by
  unfold Concat.ofList
  dsimp only
  rw [foldl_bounds]
  rfl

theorem ofList_bounds_length (sigs : List (List Nat)) :
    (Concat.ofList sigs).bounds.length = sigs.length + 1 := by
  rw [ofList_bounds, List.length_cons, length_prefixSums]

/-- `bounds[i]` of the packed form is the total length of the first `i` signatures -/
theorem ofList_bounds_getD (sigs : List (List Nat)) (i : Nat) (h : i ≤ sigs.length) :
    (Concat.ofList sigs).bounds.getD i 0 = (sigs.take i).flatten.length := by
  rw [ofList_bounds, prefixSums_getD 0 sigs i h, Nat.zero_add]

theorem ofList_bounds_getLastD (sigs : List (List Nat)) :
    (Concat.ofList sigs).bounds.getLastD 0 = sigs.flatten.length := by
  rw [ofList_bounds, prefixSums_getLastD, Nat.zero_add]

theorem ofList_len (sigs : List (List Nat)) : (Concat.ofList sigs).len = sigs.length := by
  unfold Concat.len
  rw [ofList_bounds_length]; rfl

/-- out-of-range positions read as the empty signature on both sides -/
theorem ofList_getD (sigs : List (List Nat)) (i : Nat) :
    (Concat.ofList sigs).get i = sigs.getD i [] := by
  unfold Concat.get
  rw [ofList_bounds]
  have := prefixSums_slice [] [] sigs i
  simpa [Concat.ofList] using this

theorem Concat.toList_of_get {c : Concat} {sigs : List (List Nat)} (hl : c.len = sigs.length)
    (hg : ∀ i, c.get i = sigs.getD i []) : c.toList = sigs := by
  unfold Concat.toList
  rw [hl, funext hg, range_map_getD]

theorem ofList_toList (sigs : List (List Nat)) : (Concat.ofList sigs).toList = sigs :=
  Concat.toList_of_get (ofList_len sigs) (ofList_getD sigs)

theorem gather_toList (c : Concat) (js : List Nat) : (c.gather js).toList = js.map c.get := by
  unfold Concat.gather
  rw [ofList_toList]

/-- Well-formed concatenated storage: `bounds` is non-empty and monotone (it may start anywhere,
as it does for a view), and its last entry does not exceed the number of stored values. -/
structure Concat.WF (c : Concat) : Prop where
  ne : c.bounds ≠ []
  mono : ∀ i, i + 1 < c.bounds.length → c.bounds.getD i 0 ≤ c.bounds.getD (i + 1) 0
  last_le : c.bounds.getLastD 0 ≤ c.values.length

theorem Concat.WF.mono_le {c : Concat} (wf : c.WF) (i j : Nat) (hij : i ≤ j)
    (hj : j < c.bounds.length) : c.bounds.getD i 0 ≤ c.bounds.getD j 0 := by
  induction j with
  | zero => have : i = 0 := by omega
            subst this; exact Nat.le_refl _
  | succ j ih =>
    by_cases h : i = j + 1
    · subst h; exact Nat.le_refl _
    · exact Nat.le_trans (ih (by omega) (by omega)) (wf.mono j hj)

theorem Concat.WF.lt_length {c : Concat} (wf : c.WF) {i : Nat} (h : i ≤ c.len) : i < c.bounds.length :=
  Nat.lt_of_le_of_lt h (Nat.sub_lt (List.length_pos_iff.2 wf.ne) Nat.one_pos)

theorem slice_of_slice {α : Type} (v : List α) (b0 p q bS : Nat) (h1 : b0 ≤ p) (h3 : q ≤ bS) :
    (((v.drop b0).take (bS - b0)).drop (p - b0)).take ((q - b0) - (p - b0)) =
      (v.drop p).take (q - p) := by
  rw [List.drop_take, List.drop_drop, List.take_take, Nat.add_sub_cancel' h1, Nat.sub_sub_sub_cancel_right h1,
    Nat.sub_sub_sub_cancel_right h1, Nat.min_eq_left (Nat.sub_le_sub_right h3 p)]

theorem sliceView_bounds_length (c : Concat) (start stop : Nat) (h2 : stop < c.bounds.length) :
    (c.sliceView start stop).bounds.length = stop + 1 - start := by
  unfold Concat.sliceView
  simp only [List.length_map, List.length_take, List.length_drop]
  exact Nat.min_eq_left (Nat.sub_le_sub_right h2 start)

theorem sliceView_len (c : Concat) (start stop : Nat) (h2 : stop < c.bounds.length) :
    (c.sliceView start stop).len = stop - start := by
  unfold Concat.len
  rw [sliceView_bounds_length c start stop h2]
  omega

theorem sliceView_bounds_getD (c : Concat) (start stop t : Nat) (h1 : start + t ≤ stop)
    (h2 : stop < c.bounds.length) :
    (c.sliceView start stop).bounds.getD t 0 = c.bounds.getD (start + t) 0 - c.bounds.getD start 0 := by
  unfold Concat.sliceView
  simp only [List.getD_eq_getElem?_getD, List.getElem?_map, List.getElem?_take,
    List.getElem?_drop]
  rw [if_pos (Nat.lt_sub_iff_add_lt'.2 (Nat.lt_succ_of_le h1)), List.getElem?_eq_getElem (Nat.lt_of_le_of_lt h1 h2)]
  rfl

theorem sliceView_get (c : Concat) (wf : c.WF) (start stop t : Nat) (h1 : start + t < stop)
    (h2 : stop < c.bounds.length) :
    (c.sliceView start stop).get t = c.get (start + t) := by
  unfold Concat.get
  rw [sliceView_bounds_getD c start stop t (Nat.le_of_lt h1) h2, sliceView_bounds_getD c start stop (t + 1) h1 h2, ← Nat.add_assoc]
  exact slice_of_slice c.values _ _ _ _ (wf.mono_le start (start + t) (Nat.le_add_right _ _) (Nat.lt_trans h1 h2))
    (wf.mono_le (start + t + 1) stop h1 h2)

/-- The fast-path view denotes the contiguous run of signatures `start, …, stop-1` (`h1` is not used: both sides are empty when
`stop < start`). -/
theorem sliceView_toList (c : Concat) (wf : c.WF) (start stop : Nat) (h1 : start ≤ stop)
    (h2 : stop ≤ c.len) :
    (c.sliceView start stop).toList = (List.range (stop - start)).map (fun t => c.get (start + t)) := by
  have h2' := wf.lt_length h2
  unfold Concat.toList
  rw [sliceView_len c start stop h2']
  apply List.map_congr_left
  intro t ht
  exact sliceView_get c wf start stop t (Nat.add_lt_of_lt_sub' (List.mem_range.1 ht)) h2'

theorem ofList_wf (sigs : List (List Nat)) : (Concat.ofList sigs).WF := by
  refine ⟨?_, ?_, ?_⟩
  · rw [ofList_bounds]; exact List.cons_ne_nil _ _
  · intro i hi
    rw [ofList_bounds_length] at hi
    have hi := Nat.lt_of_succ_lt_succ hi
    rw [ofList_bounds_getD sigs i (Nat.le_of_lt hi), ofList_bounds_getD sigs (i + 1) hi,
      List.take_succ_eq_append_getElem hi, List.flatten_append, List.length_append]
    exact Nat.le_add_right _ _
  · rw [ofList_bounds_getLastD]
    exact Nat.le_refl _

theorem insertIdx_eq_take_drop {α : Type} (l : List α) (i : Nat) (x : α) (h : i ≤ l.length) :
    l.insertIdx i x = l.take i ++ [x] ++ l.drop i := by
  induction l generalizing i with
  | nil => have : i = 0 := by simpa using h
           subst this; simp
  | cons a l ih =>
    cases i with
    | zero => simp
    | succ i => simp [List.insertIdx_succ_cons, ih i (by simpa using h)]

theorem pyInsertPos_le (n : Nat) (i : Int) : pyInsertPos n i ≤ n := by
  unfold pyInsertPos
  split <;> split <;> omega

end GambitV
