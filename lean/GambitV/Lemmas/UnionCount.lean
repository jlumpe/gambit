import GambitV.Model.Jaccard

/-! The defining equations of the two-pointer merge count `unionCount`, kept free of Mathlib because the tie of the generated kernel
(`Tie/Metric`) rests on them as well; and the merge count as the index loop of `c_jaccarddist` walks it: on the lists dropped at `i`, `j`,
one iteration is one `unionCount` step, and what is left once a side is exhausted is what the two final additions add. -/
namespace GambitV

theorem unionCount_nil_left (b : List Nat) : unionCount [] b = b.length := by
  simp [unionCount]

theorem unionCount_nil_right (a : List Nat) : unionCount a [] = a.length := by
  cases a <;> simp [unionCount]

theorem unionCount_cons_cons (a : Nat) (as : List Nat) (b : Nat) (bs : List Nat) :
    unionCount (a :: as) (b :: bs) =
      if a < b then unionCount as (b :: bs) + 1
      else if b < a then unionCount (a :: as) bs + 1
      else unionCount as bs + 1 := by
  rw [unionCount]

/-- One iteration of the index loop = one `unionCount` step: `i` advances when `a[i] ≤ b[j]`,
`j` advances when `b[j] ≤ a[i]` (both when equal). -/
theorem unionCount_drop_step (a b : List Nat) (i j : Nat) (hi : i < a.length) (hj : j < b.length) :
    unionCount (a.drop i) (b.drop j) =
      unionCount (a.drop (if a.getD i 0 ≤ b.getD j 0 then i + 1 else i))
                 (b.drop (if b.getD j 0 ≤ a.getD i 0 then j + 1 else j)) + 1 := by
  rw [← List.getElem_eq_getD (h := hi), ← List.getElem_eq_getD (h := hj)]
  conv => lhs; rw [List.drop_eq_getElem_cons hi, List.drop_eq_getElem_cons hj]
  rw [unionCount_cons_cons]
  by_cases h1 : a[i] < b[j]
  · rw [if_pos h1, if_pos (Nat.le_of_lt h1), if_neg (by omega), ← List.drop_eq_getElem_cons hj]
  · rw [if_neg h1]
    by_cases h2 : b[j] < a[i]
    · rw [if_pos h2, if_neg (by omega), if_pos (Nat.le_of_lt h2), ← List.drop_eq_getElem_cons hi]
    · rw [if_neg h2, if_pos (by omega), if_pos (by omega)]

/-- Once one side is exhausted the merge count is what is left of the other (`u += N - i; u += M - j`). -/
theorem unionCount_drop_of_done (a b : List Nat) {i j : Nat} (h : a.length ≤ i ∨ b.length ≤ j) :
    unionCount (a.drop i) (b.drop j) = (a.length - i) + (b.length - j) := by
  rcases h with h | h
  · rw [List.drop_eq_nil_of_le h, unionCount_nil_left, List.length_drop]; omega
  · rw [List.drop_eq_nil_of_le h, unionCount_nil_right, List.length_drop]; omega

end GambitV
