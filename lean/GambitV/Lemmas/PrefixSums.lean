import GambitV.Lemmas.ListAux

/-!
Cumulative bounds of a concatenation: the running totals of the lengths of a list of lists, and the one fact the packed layouts rest
on — the slice of the concatenation between two consecutive totals is the item between them.  The representations in use reach these
lemmas through an equation with `b :: prefixSums b xs` each: `Concat.ofList` (`ofList_bounds`), `cumBounds` (the same list by
definition, `C12.cumBounds_eq`), `Concat.window` (`window_bounds`), `Py.Sigs.boundsFrom` (`boundsFrom_eq_prefixSums`), `Py.CArr.boundsOf`
(`boundsOf_sizes`).
-/
namespace GambitV

/-- Running totals `b + |s₀|, b + |s₀| + |s₁|, …` (the tail of the `bounds` array). -/
def prefixSums {α : Type} (b : Nat) : List (List α) → List Nat
  | [] => []
  | s :: r => (b + s.length) :: prefixSums (b + s.length) r

theorem length_prefixSums {α : Type} (b : Nat) (xs : List (List α)) :
    (prefixSums b xs).length = xs.length := by
  induction xs generalizing b with
  | nil => rfl
  | cons s r ih => simp [prefixSums, ih]

theorem prefixSums_getD {α : Type} (b : Nat) (xs : List (List α)) (i : Nat) (h : i ≤ xs.length) :
    (b :: prefixSums b xs).getD i 0 = b + (xs.take i).flatten.length := by
  induction xs generalizing b i with
  | nil =>
    have : i = 0 := by simpa using h
    subst this; simp
  | cons s r ih =>
    cases i with
    | zero => simp
    | succ i =>
      have h' : i ≤ r.length := by simpa using h
      rw [prefixSums, List.getD_cons_succ, ih _ _ h']
      simp [Nat.add_assoc]

/-- the slice of the concatenation between bounds `i` and `i + 1` is item `i`, whatever stands before and after (out-of-range
positions read as the empty item) -/
theorem prefixSums_slice {α : Type} (pre post : List α) (xs : List (List α)) (i : Nat) :
    ((pre ++ xs.flatten ++ post).drop ((pre.length :: prefixSums pre.length xs).getD i 0)).take
        ((pre.length :: prefixSums pre.length xs).getD (i + 1) 0 - (pre.length :: prefixSums pre.length xs).getD i 0) =
      xs.getD i [] := by
  induction xs generalizing pre i with
  | nil =>
    cases i <;> simp [prefixSums]
  | cons s r ih =>
    cases i with
    | zero => simp [prefixSums]
    | succ i =>
      rw [prefixSums, List.getD_cons_succ, List.getD_cons_succ, List.getD_cons_succ,
        List.flatten_cons, ← List.append_assoc, ← List.length_append]
      exact ih (pre ++ s) i

theorem prefixSums_getLastD {α : Type} (b : Nat) (xs : List (List α)) :
    (b :: prefixSums b xs).getLastD 0 = b + xs.flatten.length := by
  rw [getLastD_eq_getD, List.length_cons, Nat.add_sub_cancel, length_prefixSums, prefixSums_getD b xs _ (Nat.le_refl _),
    List.take_length]

theorem prefixSums_shift {α : Type} (a b : Nat) (xs : List (List α)) :
    (prefixSums a xs).map (· + b) = prefixSums (a + b) xs := by
  induction xs generalizing a with
  | nil => rfl
  | cons s r ih => rw [prefixSums, List.map_cons, ih, prefixSums, Nat.add_right_comm]

end GambitV
