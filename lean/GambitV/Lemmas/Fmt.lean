import GambitV.Model.F32

/-! `F32.fmt4` in its steps: the rounding to nearest, ties to even, that `F32.roundRat` shares. -/
namespace GambitV
namespace Fmt

/-- numerator of `value · 10^4` for the decoded pair `(m, e)` (value `m · 2^e`) -/
def fmt4Num (m : Nat) (e : Int) : Nat := if e ≥ 0 then m * 2 ^ e.toNat * 10000 else m * 10000
/-- its denominator -/
def fmt4Den (e : Int) : Nat := if e ≥ 0 then 1 else 2 ^ (-e).toNat

/-- `num/den` rounded to the nearest integer, ties to even -/
def roundHalfEven (num den : Nat) : Nat :=
  let q := num / den
  let r := num % den
  if 2 * r > den ∨ (2 * r = den ∧ q % 2 = 1) then q + 1 else q

/-- the integer `F32.fmt4` renders: value · 10^4 rounded half-even (0 for patterns outside the model) -/
def fmt4Q (b : UInt32) : Nat :=
  match F32.decode b with
  | none => 0
  | some (m, e) => roundHalfEven (fmt4Num m e) (fmt4Den e)

/-- fixed-point rendering with 4 decimals of `q / 10^4` -/
def render4 (q : Nat) : String :=
  let fs := toString (q % 10000)
  toString (q / 10000) ++ "." ++ String.ofList (List.replicate (4 - fs.length) '0') ++ fs

theorem fmt4_eq_render4 (b : UInt32) (m : Nat) (e : Int) (h : F32.decode b = some (m, e)) :
    F32.fmt4 b = render4 (fmt4Q b) := by
  unfold F32.fmt4 fmt4Q
  rw [h]
  rfl

theorem fmt4Q_eq (b : UInt32) (m : Nat) (e : Int) (h : F32.decode b = some (m, e)) :
    fmt4Q b = roundHalfEven (fmt4Num m e) (fmt4Den e) := by
  unfold fmt4Q
  rw [h]

theorem fmt4Den_pos (e : Int) : 0 < fmt4Den e := by
  unfold fmt4Den
  split
  · exact Nat.one_pos
  · exact Nat.pow_pos (by decide)

/-- `roundHalfEven num den` is a nearest integer to `num/den` (as a two-sided bound in `Nat`), and even on an exact tie -/
theorem roundHalfEven_nearest (num den : Nat) (hden : 0 < den) :
    2 * num ≤ 2 * (roundHalfEven num den * den) + den ∧ 2 * (roundHalfEven num den * den) ≤ 2 * num + den ∧
    ((2 * num = 2 * (roundHalfEven num den * den) + den ∨ 2 * (roundHalfEven num den * den) = 2 * num + den) →
      roundHalfEven num den % 2 = 0) := by
  have hdm := Nat.div_add_mod num den
  have hr := Nat.mod_lt num hden
  unfold roundHalfEven
  simp only
  generalize num / den = q at *
  generalize num % den = r at *
  have hmul : den * q = q * den := Nat.mul_comm _ _
  have hs : (q + 1) * den = q * den + den := Nat.succ_mul _ _
  generalize hx : q * den = x at *
  split
  · rw [hs]; omega
  · rw [hx]; omega

theorem roundHalfEven_scale {c : Nat} (hc : 0 < c) (n d : Nat) : roundHalfEven (c * n) (c * d) = roundHalfEven n d := by
  unfold roundHalfEven
  simp only []
  rw [Nat.mul_mod_mul_left, Nat.mul_div_mul_left _ _ hc]
  have h1 : 2 * (c * (n % d)) > c * d ↔ 2 * (n % d) > d := by
    rw [Nat.mul_left_comm]; exact Nat.mul_lt_mul_left hc
  have h2 : 2 * (c * (n % d)) = c * d ↔ 2 * (n % d) = d := by
    rw [Nat.mul_left_comm]; exact Nat.mul_right_inj (Nat.ne_of_gt hc)
  simp only [h1, h2]

theorem roundHalfEven_one (m : Nat) : roundHalfEven m 1 = m := by
  simp [roundHalfEven, Nat.mod_one]

end Fmt
end GambitV
