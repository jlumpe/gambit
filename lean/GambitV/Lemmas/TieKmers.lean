import GambitV.Model.Loops
import GambitV.Props.C07

/-! For `Tie/Kmers`: loop rules for `forRangeFrom` (invariant, with and without early exit), one iteration of the
encoders (the reverse-complement one through `revcomp`), of the decoder and of `c_revcomp` in list form.  Nothing here mentions a generated definition.  Core Lean only. -/
namespace GambitV.Tie

/-- Invariant rule for a `for` loop whose body may exit early: `P i s` holds before iteration `i`, `Q e` of the value of an
early exit.  Stated against a name `w` for the loop result so that the generated body is picked up by unification. -/
theorem forRangeFrom_inv_exit {σ ε : Type} {body : Nat → σ → Except ε σ} {lo n : Nat} {s : σ}
    {w : Except ε σ} (hw : forRangeFrom lo n body s = w) (P : Nat → σ → Prop) (Q : ε → Prop)
    (hstep : ∀ i s, i < lo + n → P i s →
      (∃ s', body i s = .ok s' ∧ P (i + 1) s') ∨ ∃ e, body i s = .error e ∧ Q e)
    (h0 : P lo s) :
    (∃ s', w = .ok s' ∧ P (lo + n) s') ∨ ∃ e, w = .error e ∧ Q e := by
  subst hw
  induction n generalizing lo s with
  | zero => exact Or.inl ⟨s, rfl, h0⟩
  | succ n ih =>
    rw [forRangeFrom_succ]
    rcases hstep lo s (by omega) h0 with ⟨s1, hb, hP⟩ | ⟨e, hb, hQ⟩
    · rw [hb, ← Nat.add_assoc, Nat.add_right_comm]
      exact ih (fun i s hlt => hstep i s (by omega)) hP
    · rw [hb]
      exact Or.inr ⟨e, rfl, hQ⟩

/-- Invariant rule for a `for` loop without early exit, stated against a name for the loop result. -/
theorem forRangeFrom_inv' {σ ε : Type} {body : Nat → σ → Except ε σ} {lo n : Nat} {s : σ}
    {w : Except ε σ} (hw : forRangeFrom lo n body s = w) (P : Nat → σ → Prop)
    (hstep : ∀ i s, lo ≤ i → i < lo + n → P i s → ∃ s', body i s = .ok s' ∧ P (i + 1) s')
    (h0 : P lo s) :
    ∃ s', w = .ok s' ∧ P (lo + n) s' := by
  subst hw
  exact forRangeFrom_inv body P lo n s h0 hstep

/-- Reading byte `i` of `l` is one step of `encodeU64From` on what is left of `l` from `i`. -/
theorem encodeU64From_drop (l : List UInt8) (i : Nat) (h : i < l.length) (acc : UInt64) :
    encodeU64From acc (l.drop i) =
      (nucCode l[i]).bind (fun d => encodeU64From ((acc <<< 2) + UInt64.ofNat d) (l.drop (i + 1))) := by
  rw [List.drop_eq_getElem_cons h, encodeU64From]
  cases nucCode l[i] <;> rfl

theorem drop_set_self {α : Type} (l : List α) (n : Nat) (x : α) (h : n < l.length) :
    (l.set n x).drop n = x :: l.drop (n + 1) := by
  rw [List.drop_set, if_neg (Nat.lt_irrefl n), Nat.sub_self, List.drop_eq_getElem_cons h, List.set_cons_zero]

theorem sub_succ_add_one {n i : Nat} (h : i < n) : n - (i + 1) + 1 = n - i := by omega

/-- the index `n - i - 1` of the loops that run from the end, computed in `Int` -/
theorem toNat_sub_sub_one (n i : Nat) : ((n : Int) - (i : Int) - 1).toNat = n - (i + 1) := by
  rw [Int.sub_sub]; exact Int.toNat_sub n (i + 1)

/-- The `if`/`elif` chain of `c_index_to_kmer` (kmers.pyx:125-132), with whatever is done with the result. -/
theorem nucLetter_ite {α : Type} (g : UInt8 → α) (d : Nat) :
    (if d = 0 then g 65 else if d = 1 then g 67 else if d = 2 then g 71 else g 84) = g (nucLetter d) := by
  simp only [nucLetter, apply_ite g]

/-- One iteration of the `c_index_to_kmer` loop, in list form. -/
theorem decode_step (x k i : Nat) (o : List UInt8) (ho : o.length = k) (hi : i < k) :
    decode x (k - i) ++ o.drop (k - i) =
      decode (x / 4) (k - (i + 1)) ++ (o.set (k - (i + 1)) (nucLetter (x % 4))).drop (k - (i + 1)) := by
  have e1 : k - i = (k - (i + 1)) + 1 := (sub_succ_add_one hi).symm
  rw [e1]
  generalize hm : k - (i + 1) = m
  have hmlt : m < o.length := by omega
  rw [drop_set_self _ _ _ hmlt]
  simp [decode]

/-- The `if`/`elif` chain on the case-folded byte of `c_kmer_to_index` and `c_kmer_to_index_rc` (kmers.pyx:42-53), with whatever is done with
the digit (`g`) or on an invalid byte (`z`). -/
theorem nucCode_ite {α : Type} (g : Nat → α) (z : α) (b : UInt8) :
    (if b &&& 223 = 65 then g 0 else if b &&& 223 = 67 then g 1 else if b &&& 223 = 71 then g 2
      else if b &&& 223 = 84 then g 3 else z) = (nucCode b).elim z g := by
  simp only [nucCode, apply_ite (fun o : Option Nat => o.elim z g), Option.elim_some, Option.elim_none]

/-- The `if`/`elif` chain of `c_revcomp` (kmers.pyx:178-195), with whatever is done with the result. -/
theorem comp_ite {α : Type} (g : UInt8 → α) (x : UInt8) :
    (if x = 65 then g 84 else if x = 97 then g 116 else if x = 84 then g 65 else if x = 116 then g 97
      else if x = 71 then g 67 else if x = 103 then g 99 else if x = 67 then g 71 else if x = 99 then g 103
      else g x) = g (comp x) := by
  simp only [comp, apply_ite g]

/-- One iteration of the `c_revcomp` loop, in list form. -/
theorem revcomp_step (seq o : List UInt8) (i : Nat) (hi : i < seq.length) (ho : o.length = seq.length)
    (hinv : o.drop (seq.length - i) = ((seq.take i).map comp).reverse) :
    (o.set (seq.length - (i + 1)) (comp (seq.getD i 0))).drop (seq.length - (i + 1)) =
      ((seq.take (i + 1)).map comp).reverse := by
  have hm : seq.length - (i + 1) < o.length := by omega
  have e1 : seq.length - (i + 1) + 1 = seq.length - i := sub_succ_add_one hi
  rw [drop_set_self _ _ _ hm, e1, hinv, List.take_succ_eq_append_getElem hi, ← List.getElem_eq_getD (h := hi)]
  simp only [List.map_append, List.reverse_append, List.map_cons, List.map_nil, List.reverse_cons,
    List.reverse_nil, List.nil_append, List.cons_append]

/-! ### Reverse-complement encoder on a 64-bit accumulator -/

/-- Machine-level mirror of `encodeCompFrom` (64-bit accumulator, complemented digit). -/
def encodeCompU64From (acc : UInt64) : List UInt8 → Option UInt64
  | [] => some acc
  | b :: bs =>
    match nucCode b with
    | some d => encodeCompU64From ((acc <<< 2) + UInt64.ofNat (3 - d)) bs
    | none => none

/-- `c_kmer_to_index_rc` on the machine level: the complemented shift-and-add over the reversed k-mer. -/
def encodeRcU64 (s : List UInt8) : Option UInt64 := encodeCompU64From 0 s.reverse

/-- The complemented encoder is the plain one on the complemented bytes. -/
theorem encodeCompU64From_eq_map (acc : UInt64) (s : List UInt8) :
    encodeCompU64From acc s = encodeU64From acc (s.map comp) := by
  induction s generalizing acc with
  | nil => rfl
  | cons b s ih =>
    simp only [List.map_cons, encodeU64From, encodeCompU64From, nucCode_comp]
    cases nucCode b <;> simp [ih]

theorem encodeRcU64_eq (s : List UInt8) : encodeRcU64 s = encodeU64 (revcomp s) := by
  unfold encodeRcU64 encodeU64 revcomp
  rw [encodeCompU64From_eq_map, List.map_reverse]

theorem encodeRcU64_no_wrap (s : List UInt8) (h : s.length ≤ 32) :
    (encodeRcU64 s).map UInt64.toNat = encodeRc s := by
  rw [encodeRcU64_eq, C07.encodeRc_eq, C07.u64_no_wrap _ (by rw [C07.revcomp_length]; exact h)]

end GambitV.Tie
