import GambitV.Gen.PyClassify
import GambitV.Lemmas.Strict
import GambitV.Lemmas.TiePyConsensus

/-!
For the tie of the top-level `classify` (classify.py) in strict mode.  The two nested `for` loops that pick the
primary match keep `(best_i, best_d, best_taxon)` as one triple (relation `R`; `Frame`: the fields they leave
alone) and compute a nested first-minimum fold (`nestStep`), which is the model's fold over the flattened candidate
list (`primary_spec`).  Also what the tie needs of `findMatches` and of the result of `consensusPaths` on the matched taxa.
-/
namespace GambitV.TieTop
open GambitV

theorem getItem?_range {n i : Nat} (h : i < n) : Py.getItem? (List.range n) (i : Int) = some i := by
  rw [Py.getItem?_nat, List.getElem?_range h]

theorem getItem?_getD (ds : List Nat) {i : Nat} (h : i < ds.length) :
    Py.getItem? ds (i : Int) = some (ds.getD i 0) := by
  rw [Py.getItem?_nat, List.getElem?_eq_getElem h, List.getElem_eq_getD 0]

/-- the keys of the `matches` dict returned by the translated `find_matches` (indices cast to Python ints) -/
theorem map_castE_fst (L : List (Nat × List Nat)) :
    (L.map (fun e => (e.1, e.2.map (fun (i : Nat) => (i : Int))))).map (·.1) = L.map (·.1) := by
  rw [List.map_map]; rfl

abbrev St := Gen.classify.St

/-- the fields the loops leave alone (those read after the loops) -/
structure Frame (s s' : St) : Prop where
  ref_genomes : s'.ref_genomes = s.ref_genomes
  dists : s'.dists = s.dists
  consensus : s'.consensus = s.consensus
  closest_match : s'.closest_match = s.closest_match
  others : s'.others = s.others

theorem Frame.trans {s₁ s₂ s₃ : St} (h₁ : Frame s₁ s₂) (h₂ : Frame s₂ s₃) : Frame s₁ s₃ :=
  ⟨h₂.ref_genomes.trans h₁.ref_genomes, h₂.dists.trans h₁.dists, h₂.consensus.trans h₁.consensus,
    h₂.closest_match.trans h₁.closest_match, h₂.others.trans h₁.others⟩

/-- the same fields at the values they have when the loops start (`rg`: the reference genomes, `cm`: the closest
match, `os`: the other matched taxa) -/
structure Known (rg ds : List Nat) (c : Nat) (cm : Py.GenomeMatch) (os : List Nat) (s : St) : Prop where
  ref_genomes : s.ref_genomes = rg
  dists : s.dists = ds
  consensus : s.consensus = some c
  closest_match : s.closest_match = cm
  others : s.others = os

theorem Known.frame {rg ds : List Nat} {c : Nat} {cm : Py.GenomeMatch} {os : List Nat} {s s' : St}
    (hk : Known rg ds c cm os s) (hf : Frame s s') : Known rg ds c cm os s' :=
  ⟨hf.ref_genomes.trans hk.ref_genomes, hf.dists.trans hk.dists, hf.consensus.trans hk.consensus,
    hf.closest_match.trans hk.closest_match, hf.others.trans hk.others⟩

/-- `(best_i, best_d, best_taxon)` as one optional triple (index, distance, taxon) -/
def R (s : St) (acc : Option (Nat × Nat × Nat)) : Prop :=
  s.best_i = acc.map (fun r => (r.1 : Int)) ∧ s.best_d = acc.map (fun r => r.2.1) ∧
    s.best_taxon = acc.map (fun r => r.2.2)

/-- `if d < best_d: best_i, best_d, best_taxon = i, d, taxon` on the triple; `it = (i, taxon)` -/
def pickT (ds : List Nat) (acc : Option (Nat × Nat × Nat)) (it : Nat × Nat) : Option (Nat × Nat × Nat) :=
  match acc with
  | none => some (it.1, ds.getD it.1 0, it.2)
  | some (bi, bd, bt) => if ds.getD it.1 0 < bd then some (it.1, ds.getD it.1 0, it.2) else some (bi, bd, bt)

/-- one iteration of the outer loop on the triple; `c` is the consensus taxon -/
def nestStep (F : Forest) (c : Nat) (ds : List Nat) (acc : Option (Nat × Nat × Nat)) (e : Nat × List Nat) :
    Option (Nat × Nat × Nat) :=
  if (F.lineage e.1).contains c then e.2.foldl (fun a i => pickT ds a (i, e.1)) acc else acc

/-! ### the nested fold against the model's fold over the flattened candidate list -/

/-- (index, distance) of a triple -/
abbrev proj (r : Nat × Nat × Nat) : Nat × Nat := (r.1, r.2.1)

theorem pickT_proj (ds : List Nat) (acc : Option (Nat × Nat × Nat)) (it : Nat × Nat) :
    (pickT ds acc it).map proj = pickStep ds (acc.map proj) it.1 := by
  cases acc with
  | none => rfl
  | some r =>
    obtain ⟨bi, bd, bt⟩ := r
    simp only [pickT, pickStep, Option.map_some, proj]
    by_cases hlt : ds.getD it.1 0 < bd
    · simp only [hlt, if_true, Option.map_some]
    · simp only [hlt, if_false, Option.map_some]

theorem foldl_pickT_proj (ds : List Nat) (T : List (Nat × Nat)) (acc : Option (Nat × Nat × Nat)) :
    (T.foldl (pickT ds) acc).map proj = (T.map (·.1)).foldl (pickStep ds) (acc.map proj) := by
  rw [List.foldl_map]
  exact (List.foldl_hom (Option.map proj) fun a it => (pickT_proj ds a it).symm).symm

/-- the loops' update is the step `argStep` of the first-minimum fold, on (index, distance, taxon) triples compared by distance -/
theorem pickT_eq_argStep (ds : List Nat) (acc : Option (Nat × Nat × Nat)) (it : Nat × Nat) :
    pickT ds acc it = argStep (fun p b => decide (p.2.1 < b.2.1)) acc (it.1, ds.getD it.1 0, it.2) := by
  rcases acc with _ | ⟨bi, bd, bt⟩
  · rfl
  · simp only [pickT, argStep, decide_eq_true_eq]

/-- candidates tagged with the taxon they are listed under -/
def candsT (F : Forest) (c : Nat) (L : List (Nat × List Nat)) : List (Nat × Nat) :=
  L.flatMap (fun e => if (F.lineage e.1).contains c then e.2.map (fun i => (i, e.1)) else [])

theorem foldl_nestStep (F : Forest) (c : Nat) (ds : List Nat) (L : List (Nat × List Nat))
    (acc : Option (Nat × Nat × Nat)) :
    L.foldl (nestStep F c ds) acc = (candsT F c L).foldl (pickT ds) acc := by
  unfold candsT
  rw [List.foldl_flatMap]
  congr 1
  funext a e
  unfold nestStep
  by_cases hm : (F.lineage e.1).contains c = true
  · simp only [hm, if_true, List.foldl_map]
  · simp only [hm, if_false, List.foldl_nil, Bool.false_eq_true]

theorem mem_candsT {F : Forest} {c : Nat} {L : List (Nat × List Nat)} {it : Nat × Nat}
    (h : it ∈ candsT F c L) : ∃ e ∈ L, e.1 = it.2 ∧ it.1 ∈ e.2 := by
  unfold candsT at h
  obtain ⟨e, he, hit⟩ := List.mem_flatMap.1 h
  by_cases hm : (F.lineage e.1).contains c = true
  · rw [if_pos hm] at hit
    obtain ⟨i, hi, rfl⟩ := List.mem_map.1 hit
    exact ⟨e, he, rfl, hi⟩
  · rw [if_neg hm] at hit; cases hit

theorem candsT_fst (F : Forest) (hF : ForestWF F) {c : Nat} (hc : c < F.size) (L : List (Nat × List Nat)) :
    (candsT F c L).map (·.1) = L.flatMap (fun e => if isPrefix (F.path c) (F.path e.1) then e.2 else []) := by
  unfold candsT
  rw [List.map_flatMap]
  congr 1
  funext e
  rw [lineage_contains hF (Nat.zero_lt_of_lt hc)]
  by_cases hp : isPrefix (F.path c) (F.path e.1) = true
  · simp only [hp, if_true, List.map_map]
    exact List.map_id' _
  · simp only [hp, if_false, List.map_nil, Bool.false_eq_true]

theorem findMatches_idx (F : Forest) (gtax ds : List Nat) {e : Nat × List Nat}
    (he : e ∈ findMatches F gtax ds) {i : Nat} (hi : i ∈ e.2) :
    i < gtax.length ∧ matchingTaxon F (gtax.getD i 0) (ds.getD i 0) = some e.1 := by
  rw [matchingTaxon_eq_predictedSpec]
  exact (findMatches_mem F gtax ds e.1 i).1 ⟨e, he, rfl, hi⟩

theorem findMatches_key_lt (F : Forest) (hF : ForestWF F) (gtax ds : List Nat)
    (hT : ∀ t ∈ gtax, t < F.size) : ∀ t ∈ (findMatches F gtax ds).map (·.1), t < F.size := by
  intro t ht
  obtain ⟨e, he, rfl⟩ := List.mem_map.1 ht
  obtain ⟨i, hlt, hmem⟩ := findMatches_key_mem F gtax ds he
  exact mem_lineage_lt_size hF (hT _ (getD_mem hlt 0)) hmem

/-- the paths of the matched taxa -/
abbrev matchedPaths (F : Forest) (gtax ds : List Nat) : List (List Nat) :=
  ((findMatches F gtax ds).map (·.1)).map F.path

/-- the consensus taxon is a node of the forest below which some genome is matched -/
theorem consensus_facts (F : Forest) (hF : ForestWF F) (gtax ds : List Nat) (hT : ∀ t ∈ gtax, t < F.size)
    (c : Nat) (h : (consensusPaths (matchedPaths F gtax ds)).1 = some (F.path c)) :
    c < F.size ∧
      (findMatches F gtax ds).flatMap (fun e => if isPrefix (F.path c) (F.path e.1) then e.2 else []) ≠ [] := by
  obtain ⟨_, split, inv⟩ := consensusPaths_some _ (findMatches_path_ne_nil F gtax ds) _ h
  obtain ⟨s, hs, hcs⟩ := inv.below
  refine ⟨?_, flatMap_isPrefix_ne_nil F gtax ds _ ⟨s, hs, hcs⟩⟩
  simp only [List.mem_map] at hs
  obtain ⟨t, ⟨e, he, rfl⟩, rfl⟩ := hs
  have ht : e.1 < F.size := findMatches_key_lt F hF gtax ds hT _ (List.mem_map_of_mem he)
  have hpos : 0 < F.size := Nat.zero_lt_of_lt ht
  have h1 : c ∈ F.path c := List.mem_of_getLast? (path_getLast? F hpos c)
  have h2 : c ∈ F.lineage e.1 := (mem_path F e.1 c).1 (hcs.subset h1)
  exact mem_lineage_lt_size hF ht h2

/-- the taxa named in the warning, read back from their paths -/
theorem filterMap_path_getLast? (F : Forest) (hpos : 0 < F.size) (os : List Nat) :
    (os.map F.path).filterMap (fun p => p.getLast?) = os := by
  rw [List.filterMap_map]
  simp only [Function.comp_def, path_getLast? F hpos, List.filterMap_some]

/-- the primary match: the nested fold of the loops yields the model's primary index `p`, together
with its distance and the taxon matched by genome `p` -/
theorem primary_spec (F : Forest) (hF : ForestWF F) (gtax ds : List Nat) (hT : ∀ t ∈ gtax, t < F.size)
    (c : Nat) (h : (consensusPaths (matchedPaths F gtax ds)).1 = some (F.path c)) :
    ∃ p t, (findMatches F gtax ds).foldl (nestStep F c ds) none = some (p, ds.getD p 0, t) ∧
      p < gtax.length ∧ matchingTaxon F (gtax.getD p 0) (ds.getD p 0) = some t ∧
      (((findMatches F gtax ds).flatMap
        (fun e => if isPrefix (F.path c) (F.path e.1) then e.2 else [])).foldl (pickStep ds) none).map (·.1)
        = some p := by
  obtain ⟨hc, hne⟩ := consensus_facts F hF gtax ds hT c h
  have hfst := candsT_fst F hF hc (findMatches F gtax ds)
  have hproj := foldl_pickT_proj ds (candsT F c (findMatches F gtax ds)) none
  rw [hfst, Option.map_none] at hproj
  obtain ⟨it, hit, hfin, -⟩ := foldl_argStep_key (·.2.1) (fun it => (it.1, ds.getD it.1 0, it.2))
    (pickT_eq_argStep ds) (xs := candsT F c (findMatches F gtax ds))
    (fun h0 => hne (by rw [← hfst, h0]; rfl))
  obtain ⟨e, he, het, hi⟩ := mem_candsT hit
  obtain ⟨h1, h2⟩ := findMatches_idx F gtax ds he hi
  rw [foldl_nestStep]
  exact ⟨it.1, it.2, hfin, h1, het ▸ h2, by rw [← hproj, hfin]; rfl⟩

end GambitV.TieTop
