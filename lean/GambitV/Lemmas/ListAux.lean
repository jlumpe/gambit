/-!
Facts about core `List` (and `String.toList`) notions with users in more than one module.  Imports nothing.
-/
namespace GambitV

/-- a list read back through its positions -/
theorem range_map_getD {α : Type} (l : List α) (d : α) : (List.range l.length).map (fun i => l.getD i d) = l := by
  apply List.ext_getElem
  · simp
  · intro i _ h
    simp [List.getD_eq_getElem?_getD, h]

/-- `mapM` in `Option` of a function that succeeds on every member -/
theorem mapM_eq_some_map {α β : Type} (f : α → Option β) (r : α → β) :
    ∀ (l : List α), (∀ a ∈ l, f a = some (r a)) → l.mapM f = some (l.map r)
  | [], _ => rfl
  | a :: l, h => by
    rw [List.mapM_cons, h a List.mem_cons_self, mapM_eq_some_map f r l (fun x hx => h x (List.mem_cons_of_mem _ hx))]
    rfl

/-- … over the images of a section `g` of `f` it gives the list back -/
theorem mapM_map_some {α β : Type} (f : β → Option α) (g : α → β) (l : List α) (h : ∀ a ∈ l, f (g a) = some a) :
    (l.map g).mapM f = some l := by
  rw [List.mapM_map, mapM_eq_some_map (f ∘ g) id l h, List.map_id]

/-- In a list with unique keys the lookup by the key of a member finds that member. -/
theorem find?_key {α κ : Type} [BEq κ] [LawfulBEq κ] (key : α → κ) {l : List α} (hnd : (l.map key).Nodup)
    {a : α} (ha : a ∈ l) : l.find? (fun x => key x == key a) = some a := by
  induction l with
  | nil => cases ha
  | cons x l ih =>
    rw [List.map_cons, List.nodup_cons] at hnd
    rcases List.mem_cons.1 ha with rfl | h
    · simp
    · have : key x ≠ key a := fun hk => hnd.1 (hk ▸ List.mem_map_of_mem h)
      simp [this, ih hnd.2 h]

/-- `getD` at a position known to hold `r` (for a position known to be in range core has `List.getElem_eq_getD`) -/
theorem getD_of_getElem? {α : Type} {l : List α} {i : Nat} {r : α} (h : l[i]? = some r) (d : α) : l.getD i d = r := by
  rw [List.getD_eq_getElem?_getD, h, Option.getD_some]

theorem getD_map {α β : Type} (f : α → β) (l : List α) (i : Nat) (d : α) : (l.map f).getD i (f d) = f (l.getD i d) := by
  rw [List.getD_eq_getElem?_getD, List.getElem?_map, Option.getD_map, List.getD_eq_getElem?_getD]

theorem getD_append_lt {α : Type} (l t : List α) (d : α) {i : Nat} (h : i < l.length) :
    (l ++ t).getD i d = l.getD i d := by
  rw [List.getD_eq_getElem?_getD, List.getD_eq_getElem?_getD, List.getElem?_append_left h]

theorem getLastD_eq_getD {α : Type} (l : List α) (d : α) : l.getLastD d = l.getD (l.length - 1) d := by
  rw [List.getLastD_eq_getLast?, List.getLast?_eq_getElem?, List.getD_eq_getElem?_getD]

/-- string literals turned into lists of characters are compared as strings (deciding `"a".toList == "b".toList` would decode both) -/
theorem toList_beq (s t : String) : (s.toList == t.toList) = decide (s = t) := by
  by_cases h : s = t <;> simp [h, String.toList_inj]

/-- a list is the table of its cells (the converse of `range_map_getD`) -/
theorem eq_range_map {δ : Type} {l : List δ} {n : Nat} {f : Nat → δ} (hl : l.length = n)
    (h : ∀ i, i < n → l[i]? = some (f i)) : l = (List.range n).map f := by
  apply List.ext_getElem?
  intro i
  rw [List.getElem?_map]
  by_cases hi : i < n
  · rw [h i hi, List.getElem?_range hi]; rfl
  · rw [List.getElem?_eq_none (hl ▸ Nat.le_of_not_lt hi), List.getElem?_eq_none (by rw [List.length_range]; exact Nat.le_of_not_lt hi)]
    rfl

theorem toNat_natCast_map (l : List Nat) : (l.map (fun (x : Nat) => (x : Int))).map Int.toNat = l := by
  rw [List.map_map]
  exact List.map_id'' Int.toNat_natCast l

theorem natCast_toNat_map (l : List Int) (h : ∀ x ∈ l, 0 ≤ x) :
    (l.map Int.toNat).map (fun (x : Nat) => (x : Int)) = l := by
  rw [List.map_map]
  exact (List.map_congr_left fun x hx => Int.toNat_of_nonneg (h x hx)).trans (List.map_id l)

/-! ### folds -/

/-- the invariant rule for `for k in range(m)`: `P k` holds of the state before iteration `k` -/
theorem foldl_range_inv {δ : Type} (P : Nat → δ → Prop) (step : δ → Nat → δ) (init : δ) (m : Nat)
    (h0 : P 0 init) (hs : ∀ k o, k < m → P k o → P (k + 1) (step o k)) :
    P m ((List.range m).foldl step init) := by
  induction m with
  | zero => simpa using h0
  | succ m ih =>
    rw [List.range_succ, List.foldl_append, List.foldl_cons, List.foldl_nil]
    exact hs m _ (Nat.lt_succ_self m)
      (ih (fun k o hk => hs k o (Nat.lt_succ_of_lt hk)))

theorem flatMap_range_succ {γ : Type} (f : Nat → List γ) (i : Nat) :
    (List.range (i + 1)).flatMap f = (List.range i).flatMap f ++ f i := by
  rw [List.range_succ, List.flatMap_append]
  simp only [List.flatMap_cons, List.flatMap_nil, List.append_nil]

theorem flatMap_range_get {γ : Type} (f : Nat → List γ) (m i t : Nat) (hi : i < m)
    (ht : t < (f i).length) :
    ((List.range m).flatMap f)[((List.range i).flatMap f).length + t]? = (f i)[t]? := by
  rw [← Nat.add_sub_cancel' hi, List.range_add, List.flatMap_append, flatMap_range_succ, List.append_assoc,
    List.getElem?_append_right (Nat.le_add_right _ _), Nat.add_sub_cancel_left, List.getElem?_append_left ht]

theorem flatMap_range_length_le {γ : Type} (f : Nat → List γ) (k m : Nat) (h : k ≤ m) :
    ((List.range k).flatMap f).length ≤ ((List.range m).flatMap f).length := by
  rw [← Nat.add_sub_cancel' h, List.range_add, List.flatMap_append, List.length_append]
  exact Nat.le_add_right _ _

theorem set_getElem?_self {δ : Type} (o : List δ) (i : Nat) (r : δ) (h : o[i]? = some r) :
    o.set i r = o := by
  obtain ⟨hlt, rfl⟩ := List.getElem?_eq_some_iff.1 h
  exact List.set_getElem_self hlt

theorem set_getElem?_of_some {δ : Type} (o : List δ) (i a : Nat) (r x : δ) (h : o[i]? = some r) :
    (o.set i x)[a]? = if i = a then some x else o[a]? := by
  obtain ⟨hlt, _⟩ := List.getElem?_eq_some_iff.1 h
  rw [List.getElem?_set, if_pos hlt]

end GambitV
