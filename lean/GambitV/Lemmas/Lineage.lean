import GambitV.Lemmas.Taxonomy

/-!
`Forest.lineage` / `Forest.path` in a well-formed forest (`ForestWF`): the fuel never runs out, so the lineage of a
node is the node followed by the lineage of its parent, and "ancestor-or-self" is "path is a prefix".  What holds
in any forest is in `Lemmas/Taxonomy.lean`.
-/
namespace GambitV

/-- parent pointers go to smaller node ids, and only nodes of the forest have parents -/
def ForestWF (F : Forest) : Prop := ∀ t p, F.parentOf t = some p → p < t ∧ t < F.size

/-- `ForestWF` of a concrete forest, by evaluation -/
theorem forestWF_of_check {F : Forest}
    (h : (List.range F.size).all (fun t => (F.parentOf t).all (fun p => decide (p < t))) = true) : ForestWF F := by
  intro t p hp
  by_cases ht : t < F.size
  · have := List.all_eq_true.1 h t (List.mem_range.2 ht)
    rw [hp] at this
    exact ⟨by simpa using this, ht⟩
  · unfold Forest.parentOf at hp
    rw [List.getD_eq_getElem?_getD, List.getElem?_eq_none (Nat.le_of_not_lt ht)] at hp
    cases hp

/-- fuel beyond the node id is never used -/
theorem lineageFuel_stable {F : Forest} (hF : ForestWF F) :
    ∀ {n m t : Nat}, t < n → t < m → F.lineageFuel n t = F.lineageFuel m t
  | 0, _, _, h, _ => absurd h (Nat.not_lt_zero _)
  | _, 0, _, _, h => absurd h (Nat.not_lt_zero _)
  | n + 1, m + 1, t, hn, hm => by
    unfold Forest.lineageFuel
    cases hp : F.parentOf t with
    | none => rfl
    | some p =>
      have := (hF t p hp).1
      simp only
      rw [lineageFuel_stable hF (n := n) (m := m) (t := p) (Nat.lt_of_lt_of_le this (Nat.le_of_lt_succ hn))
        (Nat.lt_of_lt_of_le this (Nat.le_of_lt_succ hm))]

/-- `ancestors(incself=True)` of a node is the node followed by the ancestors of its parent -/
theorem lineage_unfold {F : Forest} (hF : ForestWF F) (hpos : 0 < F.size) (t : Nat) :
    F.lineage t = t :: (match F.parentOf t with | some p => F.lineage p | none => []) := by
  unfold Forest.lineage
  obtain ⟨k, hk⟩ : ∃ k, F.size = k + 1 := ⟨F.size - 1, (Nat.sub_add_cancel hpos).symm⟩
  rw [hk]
  conv => lhs; unfold Forest.lineageFuel
  cases hp : F.parentOf t with
  | none => rfl
  | some p =>
    have htk : t < k + 1 := hk ▸ (hF t p hp).2
    have hpk : p < k := Nat.lt_of_lt_of_le (hF t p hp).1 (Nat.le_of_lt_succ htk)
    simp only
    rw [lineageFuel_stable hF (n := k) (m := k + 1) (t := p) hpk (Nat.lt_succ_of_lt hpk)]

theorem mem_lineage_le {F : Forest} (hF : ForestWF F) : ∀ {t a : Nat}, a ∈ F.lineage t → a ≤ t := by
  intro t
  induction t using Nat.strongRecOn with
  | _ t ih =>
    intro a ha
    rw [lineage_unfold hF (pos_of_mem_lineage ha)] at ha
    rcases List.mem_cons.mp ha with rfl | m
    · exact Nat.le_refl _
    · cases hp : F.parentOf t with
      | none => rw [hp] at m; cases m
      | some p =>
        rw [hp] at m
        have hpt := (hF t p hp).1
        exact Nat.le_trans (ih p hpt m) (Nat.le_of_lt hpt)

theorem mem_lineage_lt_size {F : Forest} (hF : ForestWF F) {t a : Nat} (ht : t < F.size)
    (ha : a ∈ F.lineage t) : a < F.size :=
  Nat.lt_of_le_of_lt (mem_lineage_le hF ha) ht

theorem lineage_suffix {F : Forest} (hF : ForestWF F) :
    ∀ {t : Nat} {pre : List Nat} {a : Nat} {rest : List Nat}, F.lineage t = pre ++ a :: rest →
      F.lineage a = a :: rest := by
  intro t
  induction t using Nat.strongRecOn with
  | _ t ih =>
    intro pre a rest e
    have hpos : 0 < F.size := pos_of_mem_lineage (t := t) (a := a) (by rw [e]; simp)
    rw [lineage_unfold hF hpos] at e
    cases pre with
    | nil =>
      obtain ⟨rfl, rfl⟩ := List.cons.inj e
      exact lineage_unfold hF hpos t
    | cons x pre =>
      have e2 := (List.cons.inj e).2
      cases hp : F.parentOf t with
      | none => rw [hp] at e2; simp at e2
      | some p => rw [hp] at e2; exact ih p (hF t p hp).1 e2

theorem lineage_step {F : Forest} (hF : ForestWF F) {t a b : Nat} {pre rest : List Nat}
    (e : F.lineage t = pre ++ a :: b :: rest) : F.parentOf a = some b := by
  have h := lineage_suffix hF e
  have hpos : 0 < F.size := pos_of_mem_lineage (t := a) (a := a) (by rw [h]; exact List.mem_cons_self)
  rw [lineage_unfold hF hpos] at h
  cases hp : F.parentOf a with
  | none => rw [hp] at h; simp at h
  | some p =>
    rw [hp] at h
    have h2 : F.lineage p = b :: rest := (List.cons.inj h).2
    have := lineage_head? F hpos p
    rw [h2] at this
    exact this.symm

/-- the root-first path of `t` passes through every member `a` of its lineage: first the path of `a`, then down to `t` -/
theorem path_eq_append {F : Forest} (hF : ForestWF F) {t a : Nat} {pre rest : List Nat}
    (e : F.lineage t = pre ++ a :: rest) : F.path t = F.path a ++ pre.reverse := by
  unfold Forest.path
  rw [lineage_suffix hF e, e, List.reverse_append]

/-- `x in c.ancestors(incself=True)`, in path terms -/
theorem mem_lineage_iff_prefix {F : Forest} (hF : ForestWF F) (hpos : 0 < F.size) {c x : Nat} :
    x ∈ F.lineage c ↔ F.path x <+: F.path c := by
  constructor
  · intro h
    obtain ⟨pre, rest, e⟩ := List.append_of_mem h
    exact path_eq_append hF e ▸ List.prefix_append _ _
  · intro h
    exact (mem_path F c x).mp (h.subset (List.mem_of_getLast? (path_getLast? F hpos x)))

/-- the nodes still to be visited when the walk `hi = hi.parent` stands at `hi` -/
def Forest.chain (F : Forest) : Option Nat → List Nat
  | none => []
  | some t => F.lineage t

theorem chain_some {F : Forest} (hF : ForestWF F) (hpos : 0 < F.size) (t : Nat) :
    F.chain (some t) = t :: F.chain (F.parentOf t) := by
  show F.lineage t = _
  rw [lineage_unfold hF hpos]
  cases F.parentOf t <;> rfl

theorem length_chain_le (F : Forest) (h : Option Nat) : (F.chain h).length ≤ F.size := by
  cases h with
  | none => exact Nat.zero_le _
  | some t => exact length_lineage_le F t

end GambitV
