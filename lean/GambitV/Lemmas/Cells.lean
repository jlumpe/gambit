import GambitV.Model.Bulk
import GambitV.Lemmas.ListAux

/-!
Output buffers read cell by cell: what `slc` and `writeSlice` do to cell `i`, and the one fact behind every "the buffer ends up fully
written" theorem of the bulk distance functions — writes that each put the target's values into some cells, and together reach every
cell, produce the target, in whatever order they run.  Core Lean only.
-/
namespace GambitV

theorem length_slc {α : Type} (l : List α) (a b : Nat) : (slc l a b).length = min b l.length - a := by
  unfold slc
  rw [List.length_take, List.length_drop, Nat.sub_min_sub_right]

theorem getElem?_slc {α : Type} (l : List α) (a b i : Nat) :
    (slc l a b)[i]? = if i < b - a then l[a + i]? else none := by
  unfold slc
  rw [List.getElem?_take, List.getElem?_drop]

theorem slc_map {α β : Type} (f : α → β) (l : List α) (a b : Nat) : slc (l.map f) a b = (slc l a b).map f := by
  simp only [slc, List.map_take, List.map_drop]

theorem mem_slc {α : Type} (l : List α) (a b : Nat) (x : α) (h : x ∈ slc l a b) : x ∈ l :=
  List.mem_of_mem_drop (List.mem_of_mem_take h)

theorem writeSlice_nil {γ : Type} (row : List γ) (a : Nat) : writeSlice row a [] = row := by
  unfold writeSlice
  rw [List.append_nil, List.length_nil, Nat.add_zero, List.take_append_drop]

theorem length_writeSlice {γ : Type} (row vals : List γ) (a : Nat) (h : vals.length ≤ row.length - a) :
    (writeSlice row a vals).length = row.length := by
  rcases Nat.le_total a row.length with ha | ha
  · unfold writeSlice
    rw [List.length_append, List.length_append, List.length_take_of_le ha, List.length_drop,
      Nat.add_sub_cancel' (Nat.add_le_of_le_sub' ha h)]
  · rw [List.eq_nil_of_length_eq_zero (l := vals) (Nat.le_zero.1 (Nat.sub_eq_zero_of_le ha ▸ h)), writeSlice_nil]

theorem getElem?_writeSlice {γ : Type} (row vals : List γ) (a i : Nat) (ha : a ≤ row.length) :
    (writeSlice row a vals)[i]? =
      if i < a then row[i]? else if i < a + vals.length then vals[i - a]? else row[i]? := by
  unfold writeSlice
  rw [List.append_assoc, List.getElem?_append, List.length_take_of_le ha]
  by_cases h1 : i < a
  · rw [if_pos h1, if_pos h1, List.getElem?_take, if_pos h1]
  · have h1' := Nat.le_of_not_lt h1
    rw [if_neg h1, if_neg h1, List.getElem?_append]
    by_cases h2 : i < a + vals.length
    · rw [if_pos h2, if_pos (Nat.sub_lt_left_of_lt_add h1' h2)]
    · rw [if_neg h2, if_neg (fun h => h2 ((Nat.sub_lt_iff_lt_add' h1').1 h)), List.getElem?_drop, Nat.sub_sub,
        Nat.add_sub_cancel' (Nat.le_of_not_lt h2)]

theorem length_writeSlice_slc {γ : Type} (r vals : List γ) (h : r.length = vals.length) (a b : Nat) :
    (writeSlice r a (slc vals a b)).length = vals.length := by
  rw [length_writeSlice _ _ _ (by rw [length_slc, h]; exact Nat.sub_le_sub_right (Nat.min_le_right ..) _), h]

/-- `r[k+1:] = row` where `row` reaches exactly to the end of `r`: the cells up to `k` stay, the others are `row`'s. -/
theorem writeSlice_tail {γ : Type} (r row : List γ) (k : Nat) (h : r.length = k + 1 + row.length) :
    (writeSlice r (k + 1) row).length = r.length ∧
      ∀ b, b < r.length → (writeSlice r (k + 1) row)[b]? = if b ≤ k then r[b]? else row[b - (k + 1)]? := by
  refine ⟨length_writeSlice r row (k + 1) (by rw [h, Nat.add_sub_cancel_left]; exact Nat.le_refl _), fun b hb => ?_⟩
  rw [getElem?_writeSlice r row (k + 1) b (h ▸ Nat.le_add_right _ _)]
  by_cases h1 : b ≤ k
  · rw [if_pos (Nat.lt_succ_of_le h1), if_pos h1]
  · rw [if_neg (fun h' => h1 (Nat.le_of_lt_succ h')), if_neg h1, if_pos (h ▸ hb)]

/-- Copying the cells `a:b` of `vals` into the same cells of a row of the same length. -/
theorem getElem?_writeSlice_slc {γ : Type} (r vals : List γ) (h : r.length = vals.length) (a b i : Nat) :
    (writeSlice r a (slc vals a b))[i]? = if a ≤ i ∧ i < b then vals[i]? else r[i]? := by
  by_cases hi : i < vals.length
  · have hm : min b vals.length ≤ b := Nat.min_le_left ..
    by_cases hin : a ≤ i ∧ i < b
    · -- inside the slice
      have hlt : i - a < (slc vals a b).length := by
        rw [length_slc]; exact Nat.sub_lt_sub_right hin.1 (Nat.lt_min.2 ⟨hin.2, hi⟩)
      rw [if_pos hin, getElem?_writeSlice r _ a i (Nat.le_trans hin.1 (h ▸ Nat.le_of_lt hi)), if_neg (Nat.not_lt.2 hin.1),
        if_pos ((Nat.sub_lt_iff_lt_add' hin.1).1 hlt), getElem?_slc, if_pos (Nat.sub_lt_sub_right hin.1 hin.2),
        Nat.add_sub_cancel' hin.1]
    · -- left or right of it
      rw [if_neg hin]
      by_cases ha : a ≤ r.length
      · rw [getElem?_writeSlice r _ a i ha, length_slc]
        generalize min b vals.length = m at hm
        by_cases h1 : i < a
        · rw [if_pos h1]
        · rw [if_neg h1, if_neg (by omega)]
      · -- the slice starts behind the row: nothing is written
        have e : slc vals a b = [] := List.eq_nil_of_length_eq_zero (by rw [length_slc]; omega)
        rw [e, writeSlice_nil]
  · have hi' := Nat.le_of_not_lt hi
    rw [List.getElem?_eq_none (by rw [length_writeSlice_slc r vals h]; exact hi'), List.getElem?_eq_none hi',
      List.getElem?_eq_none (h ▸ hi'), ite_self]

/-! ### writes toward a target -/

/-- Each write `w · k` puts the target's value into the cells `D k` of a buffer as long as the target and leaves the others alone.  After
any sequence of writes a cell holds the target's value if some write reached it and its old content otherwise: the order of the writes,
and repeats, do not matter. -/
theorem foldl_toward {κ δ : Type} (t : List δ) (w : List δ → κ → List δ) (D : κ → Nat → Prop)
    [∀ k i, Decidable (D k i)]
    (hw : ∀ o k, o.length = t.length →
      (w o k).length = t.length ∧ ∀ i, (w o k)[i]? = if D k i then t[i]? else o[i]?)
    (ks : List κ) (o : List δ) (ho : o.length = t.length) :
    (ks.foldl w o).length = t.length ∧
      ∀ i, (ks.foldl w o)[i]? = if ∃ k ∈ ks, D k i then t[i]? else o[i]? := by
  induction ks generalizing o with
  | nil => exact ⟨ho, fun i => by simp⟩
  | cons k ks ih =>
    obtain ⟨hl, hc⟩ := hw o k ho
    obtain ⟨hl', hc'⟩ := ih (w o k) hl
    refine ⟨hl', fun i => ?_⟩
    rw [List.foldl_cons, hc', hc]
    by_cases h1 : ∃ k' ∈ ks, D k' i
    · obtain ⟨k', hk', hD⟩ := h1
      rw [if_pos ⟨k', hk', hD⟩, if_pos ⟨k', List.mem_cons_of_mem _ hk', hD⟩]
    · rw [if_neg h1]
      by_cases h2 : D k i
      · rw [if_pos h2, if_pos ⟨k, List.mem_cons_self .., h2⟩]
      · rw [if_neg h2, if_neg]
        rintro ⟨k', hk', hD⟩
        rcases List.mem_cons.1 hk' with rfl | hk'
        · exact h2 hD
        · exact h1 ⟨k', hk', hD⟩

theorem foldl_toward_eq {κ δ : Type} (t : List δ) (w : List δ → κ → List δ) (D : κ → Nat → Prop)
    [∀ k i, Decidable (D k i)]
    (hw : ∀ o k, o.length = t.length →
      (w o k).length = t.length ∧ ∀ i, (w o k)[i]? = if D k i then t[i]? else o[i]?)
    (ks : List κ) (o : List δ) (ho : o.length = t.length)
    (hcov : ∀ i, i < t.length → ∃ k ∈ ks, D k i) : ks.foldl w o = t := by
  obtain ⟨hl, hc⟩ := foldl_toward t w D hw ks o ho
  apply List.ext_getElem?
  intro i
  rw [hc]
  by_cases hi : i < t.length
  · rw [if_pos (hcov i hi)]
  · rw [List.getElem?_eq_none (by omega), List.getElem?_eq_none (by omega)]
    exact ite_self _

end GambitV
