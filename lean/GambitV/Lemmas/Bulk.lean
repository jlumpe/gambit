import GambitV.Lemmas.Cells

/-!
The loops of the bulk distance functions (`Model/Bulk.lean`) as folds of writes into a buffer, each described by what it does to one
cell (`foldl_range_cells`, `foldl_rows`, `foldl_toward`); the closed forms of C05 then follow by extensionality.  `flatRow`, `sqCell`,
`colStep`, `sqStep` name the anonymous steps of the model's folds; the `…_eq` lemmas beside them are the `rfl` bridges.
-/
namespace GambitV

/-- A fold over `0..k-1` whose step `t` only rewrites cell `c + t` (by `f t`) rewrites exactly the
cells `c..c+k-1`, each once. -/
theorem foldl_range_cells {δ : Type} (step : List δ → Nat → List δ) (c : Nat) (f : Nat → δ → δ)
    (hstep : ∀ o t a, (step o t)[a]? = if a = c + t then o[a]?.map (f t) else o[a]?)
    (out : List δ) (k a : Nat) :
    ((List.range k).foldl step out)[a]? =
      if c ≤ a ∧ a < c + k then out[a]?.map (f (a - c)) else out[a]? := by
  induction k with
  | zero =>
    have : ¬ (c ≤ a ∧ a < c + 0) := by omega
    simp only [List.range_zero, List.foldl_nil, if_neg this]
  | succ k ih =>
    rw [List.range_succ, List.foldl_append, List.foldl_cons, List.foldl_nil, hstep, ih]
    by_cases h1 : a = c + k
    · subst h1
      have h2 : ¬ (c ≤ c + k ∧ c + k < c + k) := by omega
      have h3 : c ≤ c + k ∧ c + k < c + (k + 1) := by omega
      simp only [if_true, if_neg h2, if_pos h3, Nat.add_sub_cancel_left]
    · rw [if_neg h1]
      by_cases h2 : c ≤ a ∧ a < c + k
      · have h3 : c ≤ a ∧ a < c + (k + 1) := by omega
        rw [if_pos h2, if_pos h3]
      · have h3 : ¬ (c ≤ a ∧ a < c + (k + 1)) := by omega
        rw [if_neg h2, if_neg h3]

/-- Steps that act on every row separately: the fold acts on row `i` as the fold of that row's steps. -/
theorem foldl_rows {κ δ : Type} (F : List δ → κ → List δ) (g : κ → Nat → δ → δ)
    (hF : ∀ o k i, (F o k)[i]? = o[i]?.map (g k i)) (ks : List κ) (o : List δ) (i : Nat) :
    (ks.foldl F o)[i]? = o[i]?.map (fun r => ks.foldl (fun r k => g k i r) r) := by
  induction ks generalizing o with
  | nil => rw [List.foldl_nil]; cases o[i]? <;> rfl
  | cons k ks ih =>
    rw [List.foldl_cons, ih, hF]
    cases o[i]? <;> rfl

/-- One iteration of the `prange` loop is a write toward `(List.range n).map body`. -/
theorem prangeRun_step {γ : Type} (body : Nat → γ) (n : Nat) (o : List γ) (k : Nat)
    (ho : o.length = ((List.range n).map body).length) :
    (o.set k (body k)).length = ((List.range n).map body).length ∧
      ∀ i, (o.set k (body k))[i]? = if k = i then ((List.range n).map body)[i]? else o[i]? := by
  refine ⟨by rw [List.length_set, ho], fun i => ?_⟩
  rw [List.getElem?_set]
  by_cases hki : k = i
  · subst hki
    rw [if_pos rfl, if_pos rfl, List.getElem?_map]
    rw [List.length_map, List.length_range] at ho
    by_cases hk : k < n
    · rw [if_pos (ho ▸ hk), List.getElem?_range hk]; rfl
    · rw [if_neg (ho ▸ hk), List.getElem?_eq_none (by rw [List.length_range]; exact Nat.le_of_not_lt hk)]; rfl
  · rw [if_neg hki, if_neg hki]

theorem prangeRun_toward {γ : Type} (body : Nat → γ) (σ : List Nat) (out : List γ) :
    (prangeRun body σ out).length = ((List.range out.length).map body).length ∧
      ∀ i, (prangeRun body σ out)[i]? =
        if ∃ k ∈ σ, k = i then ((List.range out.length).map body)[i]? else out[i]? :=
  foldl_toward _ _ (fun k i => k = i) (prangeRun_step body out.length) σ out (by simp)

theorem prangeRun_length {γ : Type} (body : Nat → γ) (σ : List Nat) (out : List γ) :
    (prangeRun body σ out).length = out.length := by
  rw [(prangeRun_toward body σ out).1]
  simp

theorem prangeRun_getElem? {γ : Type} (body : Nat → γ) (σ : List Nat) (out : List γ) (j : Nat) :
    (prangeRun body σ out)[j]? = if j ∈ σ then out[j]?.map (fun _ => body j) else out[j]? := by
  rw [(prangeRun_toward body σ out).2]
  by_cases hj : j ∈ σ
  · rw [if_pos ⟨j, hj, rfl⟩, if_pos hj, List.getElem?_map]
    by_cases h : j < out.length
    · rw [List.getElem?_range h, List.getElem?_eq_getElem h]; rfl
    · rw [List.getElem?_eq_none (by simpa using h), List.getElem?_eq_none (Nat.le_of_not_lt h)]; rfl
  · rw [if_neg (fun ⟨k, hk, e⟩ => hj (e ▸ hk)), if_neg hj]

theorem prangeRun_perm {γ : Type} (body : Nat → γ) (σ : List Nat) (out : List γ)
    (hσ : σ.Perm (List.range out.length)) : prangeRun body σ out = (List.range out.length).map body :=
  foldl_toward_eq _ _ (fun k i => k = i) (prangeRun_step body out.length) σ out (by simp)
    (fun i hi => ⟨i, hσ.mem_iff.2 (List.mem_range.2 (by simpa using hi)), rfl⟩)

/-- One step of the loop of `matrixChunk`, in the shape `foldl_range_cells` takes at `c = 0`. -/
theorem matrixChunk_step {α γ : Type} (queries : List α) (W : α → List γ → List γ)
    (o : List (List γ)) (t a : Nat) :
    (match queries[t]?, o[t]? with
      | some q, some row => o.set t (W q row)
      | _, _ => o)[a]? =
    if a = 0 + t then o[a]?.map (fun r => match queries[t]? with | some q => W q r | none => r)
    else o[a]? := by
  rw [Nat.zero_add]
  cases hq : queries[t]? with
  | none =>
    by_cases hat : a = t
    · subst hat; simp
    · simp [hat]
  | some q =>
    cases ho : o[t]? with
    | none =>
      by_cases hat : a = t
      · subst hat; simp [ho]
      · simp [hat]
    | some row =>
      obtain ⟨hlt, hget⟩ := List.getElem?_eq_some_iff.1 ho
      by_cases hat : a = t
      · subst hat; simp [hlt, hget]
      · have : ¬ t = a := fun h => hat h.symm
        simp [hat, this]

theorem matrixChunk_getElem? {α β γ : Type} (dist : α → β → γ) (queries : List α)
    (chunk : List β) (a : Nat) (out : List (List γ)) (i : Nat) :
    (matrixChunk dist queries chunk a out)[i]? =
      out[i]?.map (fun r => match queries[i]? with
        | some q => writeSlice r a (arrayDists dist q chunk)
        | none => r) := by
  unfold matrixChunk
  refine (foldl_range_cells _ 0 _ (fun o t a' =>
    matrixChunk_step queries (fun q row => writeSlice row a (arrayDists dist q chunk)) o t a') out queries.length i).trans ?_
  rw [Nat.sub_zero]
  by_cases hi : 0 ≤ i ∧ i < 0 + queries.length
  · rw [if_pos hi]
  · rw [if_neg hi, List.getElem?_eq_none (by omega : queries.length ≤ i)]
    cases out[i]? <;> rfl

theorem matrixChunk_eq_zipWith {α β γ : Type} (dist : α → β → γ) (queries : List α)
    (chunk : List β) (a : Nat) (out : List (List γ)) (hlen : out.length = queries.length) :
    matrixChunk dist queries chunk a out =
      List.zipWith (fun q row => writeSlice row a (arrayDists dist q chunk)) queries out := by
  apply List.ext_getElem?
  intro i
  rw [matrixChunk_getElem?, List.getElem?_zipWith]
  by_cases hi : i < queries.length
  · rw [List.getElem?_eq_getElem hi, List.getElem?_eq_getElem (hlen ▸ hi)]
    rfl
  · rw [List.getElem?_eq_none (Nat.le_of_not_lt hi), List.getElem?_eq_none (hlen ▸ Nat.le_of_not_lt hi)]
    rfl

theorem arrayDists_slc {α β γ : Type} (dist : α → β → γ) (q : α) (g : Nat → β) (idxs : List Nat)
    (a b : Nat) :
    arrayDists dist q ((slc idxs a b).map g) = slc (idxs.map (fun j => dist q (g j))) a b := by
  simp only [arrayDists, slc, List.map_take, List.map_drop, List.map_map]
  rfl

/-- The chunk loop of `matrixModel` on one row. -/
theorem rowFold_cover {γ : Type} (vals : List γ) (slices : List (Nat × Nat)) (row : List γ)
    (hlen : row.length = vals.length)
    (hcov : ∀ i, i < vals.length → ∃ ab ∈ slices, ab.1 ≤ i ∧ i < ab.2) :
    slices.foldl (fun r (ab : Nat × Nat) => writeSlice r ab.1 (slc vals ab.1 ab.2)) row = vals :=
  foldl_toward_eq vals _ (fun ab i => ab.1 ≤ i ∧ i < ab.2)
    (fun o ab ho => ⟨length_writeSlice_slc o vals ho ab.1 ab.2, getElem?_writeSlice_slc o vals ho ab.1 ab.2⟩)
    slices row hlen hcov

theorem chunkSlicesFrom_flatMap (n size : Nat) (hs : 0 < size) (fuel start : Nat)
    (hfuel : n - start ≤ fuel) :
    (chunkSlicesFrom n size fuel start).flatMap
      (fun ab => List.range' ab.1 (min ab.2 n - ab.1)) = List.range' start (n - start) := by
  induction fuel generalizing start with
  | zero =>
    rw [Nat.le_zero.1 hfuel]; rfl
  | succ fuel ih =>
    unfold chunkSlicesFrom
    by_cases hlt : start < n
    · rw [if_pos hlt, List.flatMap_cons, ih (start + size) (by omega)]
      by_cases hle : start + size ≤ n
      · -- a full chunk, followed by the rest
        have e : n - start = size + (n - (start + size)) := by
          rw [Nat.sub_add_eq, Nat.add_sub_cancel' (Nat.le_sub_of_add_le' hle)]
        rw [Nat.min_eq_left hle, Nat.add_sub_cancel_left, e, ← List.range'_append_1]
      · -- the last chunk is clamped to `n`; nothing follows
        have hle' := Nat.le_of_lt (Nat.lt_of_not_le hle)
        rw [Nat.min_eq_right hle', Nat.sub_eq_zero_of_le hle', List.range'_zero, List.append_nil]
    · rw [if_neg hlt, Nat.sub_eq_zero_of_le (Nat.le_of_not_lt hlt)]; rfl

theorem chunkSlicesFrom_shape (n size fuel start : Nat) (hdvd : size ∣ start) :
    ∀ ab ∈ chunkSlicesFrom n size fuel start, ab.1 < n ∧ ab.2 = ab.1 + size ∧ size ∣ ab.1 := by
  induction fuel generalizing start with
  | zero => intro ab h; simp [chunkSlicesFrom] at h
  | succ fuel ih =>
    intro ab h
    unfold chunkSlicesFrom at h
    by_cases hlt : start < n
    · rw [if_pos hlt, List.mem_cons] at h
      rcases h with h | h
      · subst h; exact ⟨hlt, rfl, hdvd⟩
      · exact ih (start + size) (Nat.dvd_add hdvd (Nat.dvd_refl size)) ab h
    · rw [if_neg hlt] at h; simp at h

/-- Row `i` of the condensed output: distances of item `i` to items `i+1..n-1`. -/
def flatRow {α γ : Type} (dist : α → α → γ) (sigs : List α) (i : Nat) : List γ :=
  match sigs[i]? with
  | some s => arrayDists dist s (sigs.drop (i + 1))
  | none => []

theorem pairwiseFlat_eq {α γ : Type} (dist : α → α → γ) (sigs : List α) :
    pairwiseFlat dist sigs = (List.range (sigs.length - 1)).flatMap (flatRow dist sigs) := rfl

theorem flatRow_length {α γ : Type} (dist : α → α → γ) (sigs : List α) (i : Nat) :
    (flatRow dist sigs i).length = sigs.length - (i + 1) := by
  unfold flatRow
  cases h : sigs[i]? with
  | none =>
    exact (Nat.sub_eq_zero_of_le (Nat.le_succ_of_le (List.getElem?_eq_none_iff.1 h))).symm
  | some s => simp [arrayDists]

theorem flatRow_get {α γ : Type} (dist : α → α → γ) (sigs : List α) (i j : Nat) (hij : i < j)
    (hj : j < sigs.length) :
    (flatRow dist sigs i)[j - (i + 1)]? = some (dist (sigs[i]'(Nat.lt_trans hij hj)) sigs[j]) := by
  unfold flatRow
  rw [List.getElem?_eq_getElem (Nat.lt_trans hij hj)]
  simp only [arrayDists, List.getElem?_map, List.getElem?_drop]
  rw [Nat.add_sub_cancel' hij, List.getElem?_eq_getElem hj]
  rfl

/-- Twice the number of entries before row `k`, without subtraction or division. -/
theorem flatPrefix_length2 {α γ : Type} (dist : α → α → γ) (sigs : List α) (k : Nat)
    (hk : k ≤ sigs.length) :
    2 * ((List.range k).flatMap (flatRow dist sigs)).length + k * (k + 1) = 2 * (k * sigs.length) := by
  induction k with
  | zero => simp
  | succ k ih =>
    have ih := ih (Nat.le_of_succ_le hk)
    rw [flatMap_range_succ, List.length_append, flatRow_length]
    rw [Nat.add_one_mul k (k + 1 + 1), Nat.mul_add_one k (k + 1), Nat.add_one_mul k sigs.length]
    omega

/-- The offset of row `k` in the condensed output. -/
theorem flatPrefix_length {α γ : Type} (dist : α → α → γ) (sigs : List α) (k : Nat)
    (hk : k ≤ sigs.length) :
    ((List.range k).flatMap (flatRow dist sigs)).length = k * sigs.length - k * (k + 1) / 2 := by
  have h1 := flatPrefix_length2 dist sigs k hk
  omega

/-- Closed form of one entry of the square matrix. -/
def sqCell {α γ : Type} (dist : α → α → γ) (zero : γ) (sigs : List α) (i j : Nat) : γ :=
  if i = j then zero
  else match sigs[min i j]?, sigs[max i j]? with
    | some a, some b => dist a b
    | _, _ => zero

/-- Entry `(i, j)` of a list-of-rows matrix (`none` outside the matrix). -/
def entry {γ : Type} (m : List (List γ)) (i j : Nat) : Option γ := m[i]?.bind (·[j]?)

theorem pairwiseSquare_eq {α γ : Type} (dist : α → α → γ) (zero : γ) (sigs : List α) :
    pairwiseSquare dist zero sigs =
      (List.range sigs.length).map (fun i => (List.range sigs.length).map (sqCell dist zero sigs i)) :=
  rfl

theorem sqCell_self {α γ : Type} (dist : α → α → γ) (zero : γ) (sigs : List α) (i : Nat) :
    sqCell dist zero sigs i i = zero := by
  simp [sqCell]

theorem sqCell_symm {α γ : Type} (dist : α → α → γ) (zero : γ) (sigs : List α) (i j : Nat) :
    sqCell dist zero sigs i j = sqCell dist zero sigs j i := by
  unfold sqCell
  by_cases h : i = j
  · subst h; rfl
  · have h' : ¬ j = i := fun e => h e.symm
    rw [if_neg h, if_neg h', Nat.min_comm, Nat.max_comm]

theorem sqCell_lt {α γ : Type} (dist : α → α → γ) (zero : γ) (sigs : List α) (i j : Nat)
    (hij : i < j) (hj : j < sigs.length) :
    sqCell dist zero sigs i j = dist (sigs[i]'(Nat.lt_trans hij hj)) sigs[j] := by
  unfold sqCell
  rw [if_neg (Nat.ne_of_lt hij), Nat.min_eq_left (Nat.le_of_lt hij), Nat.max_eq_right (Nat.le_of_lt hij),
    List.getElem?_eq_getElem (Nat.lt_trans hij hj),
    List.getElem?_eq_getElem hj]

theorem flatRow_sqCell {α γ : Type} (dist : α → α → γ) (zero : γ) (sigs : List α) (k b : Nat)
    (hkb : k < b) (hb : b < sigs.length) :
    (flatRow dist sigs k)[b - (k + 1)]? = some (sqCell dist zero sigs k b) := by
  rw [sqCell_lt dist zero sigs k b hkb hb, flatRow_get dist sigs k b hkb hb]

theorem pairwiseSquare_entry {α γ : Type} (dist : α → α → γ) (zero : γ) (sigs : List α)
    (i j : Nat) :
    entry (pairwiseSquare dist zero sigs) i j =
      if i < sigs.length ∧ j < sigs.length then some (sqCell dist zero sigs i j) else none := by
  rw [pairwiseSquare_eq]
  unfold entry
  by_cases hi : i < sigs.length
  · by_cases hj : j < sigs.length
    · simp [hi, hj]
    · simp [hi, hj]
  · simp [hi]

/-- Copy entry `t` of `row` into column `k` of row `k + 1 + t`. -/
def colStep {γ : Type} (row : List γ) (k : Nat) (o2 : List (List γ)) (t : Nat) : List (List γ) :=
  match row[t]? with
  | some v => o2.set (k + 1 + t) ((o2.getD (k + 1 + t) []).set k v)
  | none => o2

/-- One iteration of the outer loop. -/
def sqStep {α γ : Type} (dist : α → α → γ) (sigs : List α) (o : List (List γ)) (i : Nat) :
    List (List γ) :=
  match sigs[i]? with
  | none => o
  | some s =>
    (List.range (sigs.length - i - 1)).foldl (colStep (arrayDists dist s (sigs.drop (i + 1))) i)
      (o.set i (writeSlice (o.getD i []) (i + 1) (arrayDists dist s (sigs.drop (i + 1)))))

theorem pairwiseSquareLoop_eq_foldl {α γ : Type} (dist : α → α → γ) (zero : γ) (sigs : List α)
    (out : List (List γ)) :
    pairwiseSquareLoop dist zero sigs out =
      (List.range (sigs.length - 1)).foldl (sqStep dist sigs)
        ((List.range sigs.length).map (fun i => (out.getD i []).set i zero)) := rfl

theorem sqStep_of_lt {α γ : Type} (dist : α → α → γ) (sigs : List α) (o : List (List γ)) (k : Nat)
    (hk : k < sigs.length) :
    sqStep dist sigs o k =
      (List.range (sigs.length - k - 1)).foldl (colStep (flatRow dist sigs k) k)
        (o.set k (writeSlice (o.getD k []) (k + 1) (flatRow dist sigs k))) := by
  unfold sqStep flatRow
  rw [List.getElem?_eq_getElem hk]

theorem colStep_cells {γ : Type} (row : List γ) (k : Nat) (o : List (List γ)) (t a : Nat) :
    (colStep row k o t)[a]? =
      if a = k + 1 + t then
        o[a]?.map (fun r => match row[t]? with | some v => r.set k v | none => r)
      else o[a]? := by
  unfold colStep
  cases hr : row[t]? with
  | none =>
    by_cases hat : a = k + 1 + t
    · rw [if_pos hat]; cases o[a]? <;> rfl
    · rw [if_neg hat]
  | some v =>
    simp only []
    by_cases hat : a = k + 1 + t
    · subst hat
      rw [if_pos rfl, List.getD_eq_getElem?_getD]
      cases ho : o[k + 1 + t]? with
      | none =>
        have := List.getElem?_eq_none_iff.1 ho
        rw [List.getElem?_set, if_pos rfl, if_neg (by omega)]
        rfl
      | some r =>
        rw [set_getElem?_of_some _ _ _ _ _ ho, if_pos rfl]
        rfl
    · rw [if_neg hat, List.getElem?_set, if_neg (fun e => hat e.symm)]

/-- Loop invariant after `k` outer iterations: the matrix is `n × n`, the diagonal is zero, and
rows and columns `< k` hold their final values. -/
def SqInv {α γ : Type} (dist : α → α → γ) (zero : γ) (sigs : List α) (k : Nat)
    (M : List (List γ)) : Prop :=
  ∀ a, (sigs.length ≤ a → M[a]? = none) ∧
    (a < sigs.length → ∃ r, M[a]? = some r ∧ r.length = sigs.length ∧
      ∀ b, b < sigs.length → (a = b ∨ a < k ∨ b < k) → r[b]? = some (sqCell dist zero sigs a b))

theorem sqInv_length {α γ : Type} (dist : α → α → γ) (zero : γ) (sigs : List α) (k : Nat) (M : List (List γ))
    (hM : SqInv dist zero sigs k M) : M.length = sigs.length := by
  refine Nat.le_antisymm (List.getElem?_eq_none_iff.1 ((hM sigs.length).1 (Nat.le_refl _))) (Nat.le_of_not_lt fun hlt => ?_)
  obtain ⟨r, hr, _⟩ := (hM M.length).2 hlt
  rw [List.getElem?_eq_none (Nat.le_refl _)] at hr
  cases hr

theorem sqInv_init {α γ : Type} (dist : α → α → γ) (zero : γ) (sigs : List α)
    (out : List (List γ)) (hlen : out.length = sigs.length)
    (hrows : ∀ row ∈ out, row.length = sigs.length) :
    SqInv dist zero sigs 0
      ((List.range sigs.length).map (fun i => (out.getD i []).set i zero)) := by
  intro a
  constructor
  · intro ha
    rw [List.getElem?_map, List.getElem?_eq_none (by rw [List.length_range]; exact ha)]
    rfl
  · intro ha
    have ha' : a < out.length := hlen ▸ ha
    have hr : (out.getD a []).length = sigs.length :=
      List.getElem_eq_getD (h := ha') [] ▸ hrows _ (List.getElem_mem ha')
    refine ⟨(out.getD a []).set a zero, ?_, ?_, ?_⟩
    · rw [List.getElem?_map, List.getElem?_range ha]; rfl
    · rw [List.length_set, hr]
    · intro b _ hb
      have hab : a = b := by omega
      subst hab
      rw [List.getElem?_set, if_pos rfl, if_pos (hr ▸ ha), sqCell_self]

theorem sqInv_step {α γ : Type} (dist : α → α → γ) (zero : γ) (sigs : List α) (k : Nat)
    (M : List (List γ)) (hk : k < sigs.length - 1) (hM : SqInv dist zero sigs k M) :
    SqInv dist zero sigs (k + 1) (sqStep dist sigs M k) := by
  have hkn : k < sigs.length := Nat.lt_of_lt_of_le hk (Nat.sub_le _ _)
  obtain ⟨rk, hMk, hrklen, hrk⟩ := (hM k).2 hkn
  have hm : k + 1 + (sigs.length - k - 1) = sigs.length := by rw [Nat.sub_sub, Nat.add_sub_cancel' hkn]
  obtain ⟨hl, hc⟩ := writeSlice_tail rk (flatRow dist sigs k) k
    (by rw [hrklen, flatRow_length, Nat.add_sub_cancel' hkn])
  rw [sqStep_of_lt dist sigs M k hkn, getD_of_getElem? hMk]
  intro a
  rw [foldl_range_cells _ (k + 1) _ (colStep_cells (flatRow dist sigs k) k), hm, set_getElem?_of_some M k a rk _ hMk]
  -- the facts with a subtraction have done their work; every `omega` below would have to take them into account again
  clear hk hm
  refine ⟨fun ha => ?_, fun ha => ?_⟩
  · rw [if_neg (fun h => Nat.not_lt.2 ha h.2), if_neg (fun (e : k = a) => Nat.not_lt.2 ha (e ▸ hkn))]
    exact (hM a).1 ha
  obtain ⟨ra, hMa, hralen, hra⟩ := (hM a).2 ha
  rcases Nat.lt_trichotomy a k with hak | rfl | hka
  · -- an earlier row: already final
    rw [if_neg (fun h => Nat.lt_asymm hak h.1), if_neg (Nat.ne_of_gt hak)]
    exact ⟨ra, hMa, hralen, fun b hb _ => hra b hb (.inr (.inl hak))⟩
  · -- the row written in this iteration
    rw [if_neg (fun h => Nat.lt_irrefl _ h.1), if_pos rfl]
    refine ⟨_, rfl, by rw [hl, hrklen], fun b hb _ => ?_⟩
    rw [hc b (by rw [hrklen]; exact hb)]
    by_cases hba : b ≤ a
    · rw [if_pos hba]
      exact hrk b hb (by omega)
    · rw [if_neg hba, flatRow_sqCell dist zero sigs a b (Nat.lt_of_not_le hba) hb]
  · -- a later row: gets its column-`k` entry
    have hcell : (flatRow dist sigs k)[a - (k + 1)]? = some (sqCell dist zero sigs a k) := by
      rw [sqCell_symm]; exact flatRow_sqCell dist zero sigs k a hka ha
    rw [if_pos ⟨hka, ha⟩, if_neg (Nat.ne_of_lt hka), hMa]
    simp only [Option.map_some, hcell]
    refine ⟨_, rfl, by rw [List.length_set]; exact hralen, fun b hb hab => ?_⟩
    rw [List.getElem?_set]
    by_cases hkb : k = b
    · subst hkb
      rw [if_pos rfl, if_pos (hralen ▸ hkn)]
    · rw [if_neg hkb]
      exact hra b hb (by omega)

theorem sqInv_final {α γ : Type} (dist : α → α → γ) (zero : γ) (sigs : List α)
    (M : List (List γ)) (hM : SqInv dist zero sigs (sigs.length - 1) M) :
    M = pairwiseSquare dist zero sigs := by
  rw [pairwiseSquare_eq]
  refine eq_range_map (sqInv_length dist zero sigs _ M hM) (fun a ha => ?_)
  obtain ⟨r, hMa, hrlen, hr⟩ := (hM a).2 ha
  rw [hMa, eq_range_map hrlen (fun b hb => hr b hb (by omega))]

end GambitV
