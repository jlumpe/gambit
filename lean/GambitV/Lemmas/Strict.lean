import GambitV.Lemmas.Consensus
import GambitV.Lemmas.Taxonomy
import GambitV.Lemmas.MinOf

/-!
Strict mode around the consensus (C10, `classifyStrict_ok`): `find_matches` as a grouping fold (`fmStep`), the
primary-match loop as a first-minimum fold (`Lemmas/MinOf.lean`), and the executable statement `strictOk` from
conditions in `Prop` form.
-/
namespace GambitV

/-- the grouping step of `find_matches` -/
def fmStep (acc : List (Nat × List Nat)) (ti : Nat × Nat) : List (Nat × List Nat) :=
  if acc.any (fun e => e.1 == ti.1)
  then acc.map (fun e => if e.1 == ti.1 then (e.1, e.2 ++ [ti.2]) else e)
  else acc ++ [(ti.1, [ti.2])]

/-- (matched taxon, genome index) pairs in genome order -/
def fmPairs (F : Forest) (gtax ds : List Nat) : List (Nat × Nat) :=
  (List.range gtax.length).filterMap (fun i =>
    (matchingTaxon F (gtax.getD i 0) (ds.getD i 0)).map (fun t => (t, i)))

theorem findMatches_eq (F : Forest) (gtax ds : List Nat) :
    findMatches F gtax ds = (fmPairs F gtax ds).foldl fmStep [] := rfl

def pickStep (ds : List Nat) (acc : Option (Nat × Nat)) (i : Nat) : Option (Nat × Nat) :=
  match acc with
  | none => some (i, ds.getD i 0)
  | some (bi, bd) => if ds.getD i 0 < bd then some (i, ds.getD i 0) else some (bi, bd)

/-- `classifyStrict` when something matched, with the pair of `consensusPaths` projected. -/
theorem classifyStrict_nonempty (F : Forest) (gtax ds : List Nat)
    (h : (findMatches F gtax ds).isEmpty = false) :
    classifyStrict F gtax ds =
      let mts := findMatches F gtax ds
      let T := (mts.map (·.1)).map F.path
      let cons := (consensusPaths T).1
      let others := (consensusPaths T).2
      let primary : Option Nat := match cons with
        | none => none
        | some cp => ((mts.flatMap (fun e => if isPrefix cp (F.path e.1) then e.2 else [])).foldl
            (pickStep ds) none).map (·.1)
      { success := cons.isSome, predicted := cons.bind (fun p => p.getLast?), primary := primary,
        closest := argminFirst ds,
        next := nextTaxon F (gtax.getD (argminFirst ds) 0) (ds.getD (argminFirst ds) 0),
        warnInconsistent := others.filterMap (fun p => p.getLast?),
        warnNotClosest := (match primary with | some p => p != argminFirst ds | none => false),
        failed := cons.isNone } := by
  unfold classifyStrict
  simp only [h]
  rfl

theorem classifyStrict_empty (F : Forest) (gtax ds : List Nat)
    (h : (findMatches F gtax ds).isEmpty = true) :
    classifyStrict F gtax ds =
      { success := true, predicted := none, primary := none, closest := argminFirst ds,
        next := nextTaxon F (gtax.getD (argminFirst ds) 0) (ds.getD (argminFirst ds) 0),
        warnInconsistent := [], warnNotClosest := false, failed := false } := by
  unfold classifyStrict
  simp only [h]
  rfl

/-- the closest match of the strict-mode model is `np.argmin` of the distances, as in default mode -/
theorem classifyStrict_closest (F : Forest) (gtax ds : List Nat) :
    (classifyStrict F gtax ds).closest = argminFirst ds := by
  cases hE : (findMatches F gtax ds).isEmpty
  · rw [classifyStrict_nonempty F gtax ds hE]
  · rw [classifyStrict_empty F gtax ds hE]

theorem fmStep_fst (acc : List (Nat × List Nat)) (ti : Nat × Nat) :
    (fmStep acc ti).map (·.1) =
      if (acc.map (·.1)).contains ti.1 then acc.map (·.1) else acc.map (·.1) ++ [ti.1] := by
  have hany : acc.any (fun e => e.1 == ti.1) = (acc.map (·.1)).contains ti.1 := by
    rw [Bool.eq_iff_iff]
    simp only [List.any_eq_true, beq_iff_eq, List.contains_iff_mem, List.mem_map]
  unfold fmStep
  rw [hany]
  split
  · rw [List.map_map]
    apply List.map_congr_left
    intro e _
    simp only [Function.comp]
    split <;> rfl
  · simp

theorem fmStep_keys_nodup (acc : List (Nat × List Nat)) (ti : Nat × Nat) (h : (acc.map (·.1)).Nodup) :
    ((fmStep acc ti).map (·.1)).Nodup := by
  rw [fmStep_fst]
  split
  · exact h
  · next hc =>
    refine List.nodup_append.2 ⟨h, List.pairwise_singleton _ _, fun a ha b hb e => hc ?_⟩
    rw [List.mem_singleton.1 hb] at e
    exact List.contains_iff_mem.2 (e ▸ ha)

theorem fmStep_mem (acc : List (Nat × List Nat)) (ti : Nat × Nat) (t i : Nat) :
    (∃ e ∈ fmStep acc ti, e.1 = t ∧ i ∈ e.2) ↔ (∃ e ∈ acc, e.1 = t ∧ i ∈ e.2) ∨ (t, i) = ti := by
  unfold fmStep
  split
  · next hany =>
    simp only [List.any_eq_true, beq_iff_eq] at hany
    simp only [List.mem_map]
    constructor
    · rintro ⟨e', ⟨e, he, rfl⟩, h1, h2⟩
      by_cases hk : e.1 = ti.1
      · simp only [hk, beq_self_eq_true, if_true, List.mem_append, List.mem_singleton] at h1 h2
        rcases h2 with h2 | h2
        · exact Or.inl ⟨e, he, hk.trans h1, h2⟩
        · right; rw [← h1, h2]
      · have : (e.1 == ti.1) = false := by simpa using hk
        simp only [this] at h1 h2
        exact Or.inl ⟨e, he, h1, h2⟩
    · rintro (⟨e, he, h1, h2⟩ | h)
      · refine ⟨_, ⟨e, he, rfl⟩, ?_⟩
        split
        · exact ⟨h1, List.mem_append_left _ h2⟩
        · exact ⟨h1, h2⟩
      · obtain ⟨e, he, hk⟩ := hany
        refine ⟨_, ⟨e, he, rfl⟩, ?_⟩
        cases h
        simp [hk]
  · simp only [List.mem_append, List.mem_singleton]
    constructor
    · rintro ⟨e, he | rfl, h1, h2⟩
      · exact Or.inl ⟨e, he, h1, h2⟩
      · right
        simp only [List.mem_singleton] at h2
        rw [← h1, h2]
    · rintro (⟨e, he, h1, h2⟩ | h)
      · exact ⟨e, Or.inl he, h1, h2⟩
      · cases h
        exact ⟨_, Or.inr rfl, rfl, List.mem_singleton.2 rfl⟩

theorem foldl_fmStep_mem (ms : List (Nat × Nat)) (t i : Nat) : ∀ acc : List (Nat × List Nat),
    (∃ e ∈ ms.foldl fmStep acc, e.1 = t ∧ i ∈ e.2) ↔ (∃ e ∈ acc, e.1 = t ∧ i ∈ e.2) ∨ (t, i) ∈ ms := by
  induction ms with
  | nil => intro acc; simp
  | cons ti ms ih =>
    intro acc
    rw [List.foldl_cons, ih, fmStep_mem, List.mem_cons, or_assoc]

theorem fmStep_ne_nil (acc : List (Nat × List Nat)) (ti : Nat × Nat) (h : ∀ e ∈ acc, e.2 ≠ []) :
    ∀ e ∈ fmStep acc ti, e.2 ≠ [] := by
  unfold fmStep
  split
  · intro e' he'
    obtain ⟨e, he, rfl⟩ := List.mem_map.1 he'
    split
    · simp
    · exact h e he
  · intro e he
    rcases List.mem_append.1 he with he | he
    · exact h e he
    · rw [List.mem_singleton.1 he]; simp

theorem mem_fmPairs (F : Forest) (gtax ds : List Nat) (t i : Nat) :
    (t, i) ∈ fmPairs F gtax ds ↔
      i < gtax.length ∧ predictedSpec F (gtax.getD i 0) (ds.getD i 0) = some t := by
  unfold fmPairs
  simp only [List.mem_filterMap, List.mem_range, Option.map_eq_some_iff, Prod.mk.injEq,
    matchingTaxon_eq_predictedSpec]
  constructor
  · rintro ⟨j, hj, a, ha, rfl, rfl⟩; exact ⟨hj, ha⟩
  · rintro ⟨hi, h⟩; exact ⟨i, hi, t, h, rfl, rfl⟩

/-- the spec's list of matched taxa -/
def matchedSpec (F : Forest) (gtax ds : List Nat) : List (Option Nat) :=
  (List.range gtax.length).map (fun i => predictedSpec F (gtax.getD i 0) (ds.getD i 0))

theorem fmPairs_fst (F : Forest) (gtax ds : List Nat) :
    (fmPairs F gtax ds).map (·.1) = (matchedSpec F gtax ds).filterMap id := by
  unfold fmPairs matchedSpec
  rw [List.map_filterMap, List.filterMap_map]
  congr 1
  funext i
  simp [matchingTaxon_eq_predictedSpec, Option.map_map, Function.comp_def]

/-- the matched taxa of `find_matches`, in first-match order, are the spec's -/
theorem findMatches_fst (F : Forest) (gtax ds : List Nat) :
    (findMatches F gtax ds).map (·.1) = dedup ((matchedSpec F gtax ds).filterMap id) := by
  rw [findMatches_eq, ← fmPairs_fst, dedup, List.foldl_map]
  symm
  exact List.foldl_hom (List.map fun e : Nat × List Nat => e.1) (init := []) fun acc ti => (fmStep_fst acc ti).symm

/-- genome `i` is listed under taxon `t` iff `t` is the taxon matched by genome `i` -/
theorem findMatches_mem (F : Forest) (gtax ds : List Nat) (t i : Nat) :
    (∃ e ∈ findMatches F gtax ds, e.1 = t ∧ i ∈ e.2) ↔
      i < gtax.length ∧ predictedSpec F (gtax.getD i 0) (ds.getD i 0) = some t := by
  rw [findMatches_eq, foldl_fmStep_mem, mem_fmPairs]
  simp

theorem findMatches_keys_nodup (F : Forest) (gtax ds : List Nat) :
    ((findMatches F gtax ds).map (·.1)).Nodup :=
  List.foldlRecOn (motive := fun acc => (acc.map (·.1)).Nodup) (fmPairs F gtax ds) fmStep List.nodup_nil
    fun acc h ti _ => fmStep_keys_nodup acc ti h

theorem findMatches_ne_nil (F : Forest) (gtax ds : List Nat) :
    ∀ e ∈ findMatches F gtax ds, e.2 ≠ [] :=
  List.foldlRecOn (motive := fun acc => ∀ e ∈ acc, e.2 ≠ []) (fmPairs F gtax ds) fmStep
    (fun e he => by cases he) fun acc h ti _ => fmStep_ne_nil acc ti h

/-- every key of `find_matches` lies on the lineage of the taxon of some genome -/
theorem findMatches_key_mem (F : Forest) (gtax ds : List Nat) {e : Nat × List Nat}
    (he : e ∈ findMatches F gtax ds) : ∃ i, i < gtax.length ∧ e.1 ∈ F.lineage (gtax.getD i 0) := by
  obtain ⟨i, hi⟩ := List.exists_mem_of_ne_nil _ (findMatches_ne_nil F gtax ds e he)
  obtain ⟨hlt, hm⟩ := (findMatches_mem F gtax ds e.1 i).1 ⟨e, he, rfl, hi⟩
  rw [← matchingTaxon_eq_predictedSpec] at hm
  exact ⟨i, hlt, List.mem_of_find?_eq_some hm⟩

theorem findMatches_path_ne_nil (F : Forest) (gtax ds : List Nat) :
    ∀ p ∈ ((findMatches F gtax ds).map (·.1)).map F.path, p ≠ [] := by
  intro p hp
  simp only [List.mem_map] at hp
  obtain ⟨t, ⟨e, he, rfl⟩, rfl⟩ := hp
  obtain ⟨i, -, hm⟩ := findMatches_key_mem F gtax ds he
  exact path_ne_nil F (pos_of_mem_lineage hm) e.1

/-- the primary-match loop is the first-minimum fold on (index, distance) pairs compared by distance -/
theorem pickStep_eq_argStep (ds : List Nat) (acc : Option (Nat × Nat)) (i : Nat) :
    pickStep ds acc i = argStep (fun p b => decide (p.2 < b.2)) acc (i, ds.getD i 0) := by
  rcases acc with _ | ⟨bi, bd⟩
  · rfl
  · simp only [pickStep, argStep, decide_eq_true_eq]

theorem pick_spec (ds : List Nat) (cands : List Nat) (h : cands ≠ []) :
    ∃ p ∈ cands, (cands.foldl (pickStep ds) none).map (·.1) = some p ∧
      ∀ i ∈ cands, ds.getD p 0 ≤ ds.getD i 0 := by
  obtain ⟨p, hp, hfold, hmin⟩ := foldl_argStep_key (·.2) (fun i => (i, ds.getD i 0)) (pickStep_eq_argStep ds) h
  exact ⟨p, hp, by rw [hfold]; rfl, hmin⟩

theorem mem_flatMap_isPrefix (F : Forest) (gtax ds : List Nat) (cp : List Nat) (i : Nat) :
    i ∈ (findMatches F gtax ds).flatMap (fun e => if isPrefix cp (F.path e.1) then e.2 else []) ↔
      i < gtax.length ∧ ∃ t, predictedSpec F (gtax.getD i 0) (ds.getD i 0) = some t ∧
        isPrefix cp (F.path t) = true := by
  rw [List.mem_flatMap]
  constructor
  · rintro ⟨e, he, hi⟩
    by_cases hp : isPrefix cp (F.path e.1) = true
    · rw [if_pos hp] at hi
      obtain ⟨h1, h2⟩ := (findMatches_mem F gtax ds e.1 i).1 ⟨e, he, rfl, hi⟩
      exact ⟨h1, e.1, h2, hp⟩
    · rw [if_neg hp] at hi; cases hi
  · rintro ⟨h1, t, h2, hp⟩
    obtain ⟨e, he, rfl, hi⟩ := (findMatches_mem F gtax ds t i).2 ⟨h1, h2⟩
    exact ⟨e, he, by rw [if_pos hp]; exact hi⟩

theorem flatMap_isPrefix_ne_nil (F : Forest) (gtax ds : List Nat) (cp : List Nat)
    (h : ∃ s ∈ ((findMatches F gtax ds).map (·.1)).map F.path, cp <+: s) :
    (findMatches F gtax ds).flatMap (fun e => if isPrefix cp (F.path e.1) then e.2 else []) ≠ [] := by
  obtain ⟨s, hs, hcs⟩ := h
  simp only [List.mem_map] at hs
  obtain ⟨t, ⟨e, he, rfl⟩, rfl⟩ := hs
  obtain ⟨i, hi⟩ := List.exists_mem_of_ne_nil _ (findMatches_ne_nil F gtax ds e he)
  apply List.ne_nil_of_mem (a := i)
  rw [List.mem_flatMap]
  exact ⟨e, he, by rw [if_pos ((isPrefix_iff _ _).2 hcs)]; exact hi⟩

theorem matchedSpec_getD (F : Forest) (gtax ds : List Nat) (i : Nat) (hi : i < gtax.length) :
    (matchedSpec F gtax ds).getD i none = predictedSpec F (gtax.getD i 0) (ds.getD i 0) := by
  simp [matchedSpec, List.getD_eq_getElem?_getD, hi]

/-- Sufficient conditions, in `Prop` form, for the executable statement `strictOk`. -/
theorem strictOk_intro {F : Forest} {gtax ds : List Nat} {success : Bool}
    {predicted primary : Option Nat} {closest : Nat} {warn : List Nat} {failed : Bool}
    (hclosest : closest < ds.length) (hmin : ∀ x ∈ ds, ds.getD closest 0 ≤ x)
    (taxa : List Nat) (htaxa : taxa = dedup ((matchedSpec F gtax ds).filterMap id))
    (cons : Option (List Nat)) (hcons : cons = consensusSpec (taxa.map F.path))
    (hpred : predicted = cons.bind (fun p => p.getLast?))
    (hfail : failed = (!taxa.isEmpty && cons.isNone))
    (hsucc : success = !failed)
    (hwarn : failed = true ∨ warn = (othersSpec (taxa.map F.path)).filterMap (fun p => p.getLast?))
    (hprim : match cons with
      | none => primary = none
      | some cp => ∃ p, primary = some p ∧ p < gtax.length ∧
          (∃ t, predictedSpec F (gtax.getD p 0) (ds.getD p 0) = some t ∧ isPrefix cp (F.path t) = true) ∧
          ∀ i, i < gtax.length → ∀ t, predictedSpec F (gtax.getD i 0) (ds.getD i 0) = some t →
            isPrefix cp (F.path t) = true → ds.getD p 0 ≤ ds.getD i 0) :
    strictOk F gtax ds success predicted primary closest warn failed = true := by
  unfold strictOk
  simp only [Bool.and_eq_true]
  rw [show (List.range gtax.length).map (fun i => predictedSpec F (gtax.getD i 0) (ds.getD i 0)) =
    matchedSpec F gtax ds from rfl, ← htaxa, ← hcons]
  refine ⟨⟨⟨⟨⟨⟨?_, ?_⟩, ?_⟩, ?_⟩, ?_⟩, ?_⟩, ?_⟩
  · simpa using hclosest
  · simpa [List.all_eq_true] using hmin
  · rw [hpred]; exact beq_self_eq_true _
  · rw [hfail]; exact beq_self_eq_true _
  · rw [hsucc]; exact beq_self_eq_true _
  · rcases hwarn with hwarn | hwarn
    · rw [hwarn]; rfl
    · rw [hwarn, Bool.or_eq_true]; exact Or.inr (beq_self_eq_true _)
  · cases cons with
    | none =>
      simp only at hprim ⊢
      rw [hprim]
      rfl
    | some cp =>
      simp only at hprim ⊢
      obtain ⟨p, rfl, hp, ⟨t, ht, hpre⟩, hmin⟩ := hprim
      simp only [Bool.and_eq_true, List.contains_iff_mem, List.mem_filter, List.mem_range,
        List.all_eq_true, decide_eq_true_eq]
      refine ⟨⟨hp, ?_⟩, ?_⟩
      · rw [matchedSpec_getD F gtax ds p hp, ht]; exact hpre
      · rintro i ⟨hi, hm⟩
        rw [matchedSpec_getD F gtax ds i hi] at hm
        cases hq : predictedSpec F (gtax.getD i 0) (ds.getD i 0) with
        | none => rw [hq] at hm; cases hm
        | some t' => rw [hq] at hm; exact hmin i hi t' hq hm
end GambitV
