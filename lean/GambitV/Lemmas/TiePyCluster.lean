import GambitV.Lemmas.PyRt
import GambitV.Lemmas.Cluster

/-!
Helper lemmas for the tie of the translated `linkage_to_bio_tree` (`GambitV.Tie.PyCluster`).  Nothing here mentions the generated
term: `xs[i]` of a mapped list for a non-negative integer index, and the height look-up of the
translated loop body as `nodeHeight` of the model.
-/
namespace GambitV.TieClu
open GambitV GambitV.Py

/-- `xs[i]` of a mapped list for an in-range integer `i ≥ 0` -/
theorem getItem?_map_nonneg {α β : Type} (f : α → β) (xs : List α) (d : α) (i : Int) (h : 0 ≤ i) (hlt : i.toNat < xs.length) :
    getItem? (xs.map f) i = some (f (xs.getD i.toNat d)) := by
  obtain ⟨m, rfl⟩ := Int.eq_ofNat_of_zero_le h
  exact getItem?_map_nat f xs d hlt

/-- the height the loop body subtracts for child `i` (`0 if i < nleaves else link[i - nleaves][2]`) is the model's `nodeHeight` -/
theorem height_lookup (n : Nat) (rows : List (Int × Int × Int × Int)) (g : Int × Int × Int × Int → LinkRow)
    (hg : ∀ x, (g x).height = x.2.2.1) (i : Int) (h : 0 ≤ i) :
    (if decide (i < (n : Int)) = true then (0 : Int) else ((getItem? rows (i - n)).getD (0, 0, 0, 0)).2.2.1)
      = nodeHeight n (rows.map g) i.toNat := by
  obtain ⟨m, rfl⟩ := Int.eq_ofNat_of_zero_le h
  unfold nodeHeight
  rw [Int.toNat_natCast]
  by_cases hlt : m < n
  · simp only [Int.ofNat_lt.2 hlt, decide_true, if_true, hlt]
  · simp only [Int.ofNat_lt, hlt, decide_false, Bool.false_eq_true, if_false, ← Int.ofNat_sub (Nat.le_of_not_lt hlt),
      getItem?_nat, List.getD_eq_getElem?_getD, List.getElem?_map]
    cases rows[m - n]? with
    | none => rfl
    | some x => exact (hg x).symm

/-- the look-up of the row of child `i` does not fail when the child exists already (`i < n + r`, `r` rows processed) -/
theorem height_guard (n r : Nat) (rows : List (Int × Int × Int × Int)) (hr : r ≤ rows.length) (i : Int) (h : 0 ≤ i)
    (hlt : i.toNat < n + r) :
    ((!(decide (i < (n : Int)))) && (getItem? rows (i - n)).isNone) = false := by
  obtain ⟨m, rfl⟩ := Int.eq_ofNat_of_zero_le h
  rw [Int.toNat_natCast] at hlt
  by_cases hl : m < n
  · simp only [Int.ofNat_lt.2 hl, decide_true, Bool.not_true, Bool.false_and]
  · have hle := Nat.le_of_not_lt hl
    have h4 : m - n < rows.length := Nat.lt_of_lt_of_le (Nat.sub_lt_left_of_lt_add hle hlt) hr
    rw [← Int.ofNat_sub hle, getItem?_nat, List.getElem?_eq_getElem h4]
    simp only [Option.isNone_some, Bool.and_false]

end GambitV.TieClu
