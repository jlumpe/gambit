import GambitV.Lemmas.PyRt
import GambitV.Lemmas.Bulk
import GambitV.Lemmas.PrefixSums
import GambitV.Lemmas.ListAux

/-!
What the tie of the translated bulk distance functions (`Tie/PyBulk.lean`) needs that does not mention the generated term: Python
slices at natural-number bounds as the model's `slc` / `writeSlice`, a loop `for i, x in enumerate(xs): o[i] = W(x, o[i])` as
`zipWith`, and the packed (`values` / `bounds`) form of a collection.
-/
namespace GambitV.TieBulk
open GambitV GambitV.Py

/-- `Py.slice_nat` and `Py.putSlice_nat` with their right sides folded into the model's `slc` and `writeSlice`. -/
theorem slice_eq_slc {α : Type} (xs : List α) (a b : Nat) : Py.slice xs (some (a : Int)) (some (b : Int)) = slc xs a b :=
  Py.slice_nat xs a b

theorem putSlice_eq_writeSlice {α : Type} (xs : List α) (a : Nat) (hi : Int) (vals : List α) :
    putSlice xs (a : Int) hi vals = writeSlice xs a vals :=
  Py.putSlice_nat xs a hi vals

/-- `out.shape != (m,)` -/
theorem shapeNe_eq_false (o : ND) (m : Nat) : ND.shapeNe o [(m : Int)] = false ↔ o.shape = [m] := by
  unfold ND.shapeNe
  rw [bne_eq_false_iff_eq]
  constructor
  · intro hm
    simpa [List.map_map, Function.comp_def] using congrArg (List.map Int.toNat) hm
  · intro h
    rw [h]
    rfl

/-- one iteration of `for i, x in enumerate(xs): o[i] = W(x, o[i])` -/
def setAt {α δ : Type} (W : α → δ → δ) (o : List δ) (x : Int × α) : List δ :=
  match o[x.1.toNat]? with | some r => o.set x.1.toNat (W x.2 r) | none => o

theorem setAt_length {α δ : Type} (W : α → δ → δ) (o : List δ) (x : Int × α) : (setAt W o x).length = o.length := by
  unfold setAt
  cases o[x.1.toNat]? <;> simp

theorem setAt_nat {α δ : Type} (W : α → δ → δ) (o : List δ) (i : Nat) (y : α) (r : δ) (h : o[i]? = some r) :
    setAt W o ((i : Int), y) = o.set i (W y r) := by
  unfold setAt
  simp only [Int.toNat_natCast, h]

theorem foldl_enumFrom_set {α δ : Type} (W : α → δ → δ) (xs : List α) (pre rest : List δ) (hr : rest.length = xs.length) :
    (enumerateFrom pre.length xs).foldl (setAt W) (pre ++ rest) = pre ++ List.zipWith W xs rest := by
  induction xs generalizing pre rest with
  | nil => cases rest with
    | nil => rfl
    | cons _ _ => simp at hr
  | cons x xs ih =>
    cases rest with
    | nil => simp at hr
    | cons r rest =>
      have hr' : rest.length = xs.length := by simpa using hr
      have h1 : (pre ++ r :: rest)[pre.length]? = some r := by simp
      rw [enumerateFrom, List.foldl_cons, setAt_nat W _ _ _ r h1]
      have h2 : (pre ++ r :: rest).set pre.length (W x r) = (pre ++ [W x r]) ++ rest := by
        simp
      rw [h2]
      have h3 := ih (pre ++ [W x r]) rest hr'
      rw [List.length_append, List.length_singleton] at h3
      rw [h3, List.zipWith_cons_cons, List.append_assoc, List.singleton_append]

theorem foldl_enum_set {α δ : Type} (W : α → δ → δ) (xs : List α) (o : List δ) (hr : o.length = xs.length) :
    (enumerate xs).foldl (setAt W) o = List.zipWith W xs o := by
  have h := foldl_enumFrom_set W xs [] o hr
  simpa [enumerate] using h

/-! ### the packed form of a collection: `values` and `bounds` -/

theorem boundsFrom_length (acc : Int) (items : List (List Int)) : (Sigs.boundsFrom acc items).length = items.length + 1 := by
  induction items generalizing acc with
  | nil => rfl
  | cons x xs ih => rw [Sigs.boundsFrom, List.length_cons, ih, List.length_cons]

theorem boundsFrom_head (acc : Int) (items : List (List Int)) : (Sigs.boundsFrom acc items).getD 0 0 = acc := by
  cases items <;> rfl

theorem boundsFrom_eq_prefixSums (b : Nat) (items : List (List Int)) :
    Sigs.boundsFrom (b : Int) items = (b :: prefixSums b items).map (fun (x : Nat) => (x : Int)) := by
  induction items generalizing b with
  | nil => rfl
  | cons x xs ih => rw [Sigs.boundsFrom, ← Int.natCast_add, ih]; rfl

/-- the values between two consecutive bounds are the signature: `values[bounds[i]:bounds[i+1]] = items[i]` -/
theorem slice_bounds (pre : List Int) (items : List (List Int)) (i : Nat) (hi : i < items.length) :
    Py.slice (pre ++ items.flatten) (some ((Sigs.boundsFrom (pre.length : Int) items).getD i 0))
        (some ((Sigs.boundsFrom (pre.length : Int) items).getD (i + 1) 0)) = items[i] := by
  have hl : ∀ j, ((pre.length :: prefixSums pre.length items).map (fun (x : Nat) => (x : Int))).getD j 0
      = (((pre.length :: prefixSums pre.length items).getD j 0 : Nat) : Int) :=
    fun j => getD_map _ _ j 0
  rw [boundsFrom_eq_prefixSums, hl, hl, Py.slice_nat]
  rw [List.getElem_eq_getD [], ← prefixSums_slice pre [] items i, List.append_nil]

theorem slice_values_bounds (c : Sigs) (i : Nat) (hi : i < c.items.length) :
    Py.slice c.values.vals (some (c.bounds.getD i 0)) (some (c.bounds.getD (i + 1) 0)) = c.items[i] := by
  have h := slice_bounds [] c.items i hi
  simpa [Sigs.values, Sigs.bounds] using h

/-- the fused kernel on a packed collection: every cell of a buffer of the right length is overwritten with the distance to the
corresponding signature -/
theorem parallelDists_eq (q : Arr) (c : Sigs) (o : ND) (vals : List UInt32) (hr : o.rows = [vals]) (hl : vals.length = c.items.length) :
    parallelDists q c.values c.bounds o
      = { o with rows := [(c.items.map (fun it => it.map Int.toNat)).map (jaccardBits q.natVals)] } := by
  unfold parallelDists
  have hb : c.bounds.length - 1 = c.items.length := by
    unfold Sigs.bounds
    rw [boundsFrom_length]
    rfl
  have hv : o.vals1 = vals := by unfold ND.vals1; rw [hr]; rfl
  simp only [hb, hv]
  congr 2
  have h := prangeRun_perm
    (fun i => jaccardBits q.natVals ((Py.slice c.values.vals (some (c.bounds.getD i 0)) (some (c.bounds.getD (i + 1) 0))).map Int.toNat))
    (List.range vals.length) vals (List.Perm.refl _)
  unfold prangeRun at h
  rw [hl] at h
  rw [h]
  refine (eq_range_map (by rw [List.length_map, List.length_map]) (fun i hi => ?_)).symm
  rw [List.getElem?_map, List.getElem?_map, List.getElem?_eq_getElem hi, slice_values_bounds c i hi]
  rfl

/-- `c[[i, j, …]]` with every index in range: the selected signatures -/
theorem getIdx?_nat (c : Sigs) (l : List Nat) (h : ∀ j ∈ l, j < c.items.length) :
    c.getIdx? (l.map (fun (j : Nat) => (j : Int))) = some { c with items := l.map (fun j => c.items.getD j []) } := by
  unfold Sigs.getIdx?
  have hget : ∀ j ∈ l, ((fun i => getItem? c.items i) ∘ fun (j : Nat) => (j : Int)) j = some (c.items.getD j []) := by
    intro j hj
    rw [Function.comp_apply, getItem?_nat, List.getD_eq_getElem?_getD, List.getElem?_eq_getElem (h j hj)]
    rfl
  rw [List.mapM_map, mapM_eq_some_map _ (fun j => c.items.getD j []) l hget]
  rfl

theorem slc_range_getD {α : Type} (L : List α) (d : α) (a b : Nat) :
    (slc (List.range L.length) a b).map (fun j => L.getD j d) = slc L a b := by
  rw [← slc_map, range_map_getD]

end GambitV.TieBulk
