import GambitV.Lemmas.TiePyBulk

/-!
What the tie of the translated `jaccarddist_pairwise` (`Tie/PyPairwise.lean`) needs that does not mention the generated term: the
views and slice writes of the distance arrays (`ND.view1`, `ND.put1`, `ND.rowView`, `ND.putRow`, `ND.putCol`) at natural-number
arguments, in the model's `slc` / `writeSlice`; the items and the tail slice of a collection; the prefix of the condensed output after
`i` rows; and for the square loop: the zeroed diagonal as `pairwiseSquareLoop` writes it, reading back the row just written, and the
column copy of the model (a fold of `colStep`) as the one map over the rows that `ND.putCol` is.
-/
namespace GambitV.TiePair
open GambitV GambitV.Py GambitV.TieBulk

/-- the number of iterations of `for i in range(n - 1)` -/
theorem range_pred_toNat (n : Nat) : ((n : Int) - 1 - 0).toNat = n - 1 := by
  rw [Int.sub_zero]; exact Int.toNat_sub n 1

/-- the write position of the flat loop after a row of `n - (i + 1)` cells, as a natural number -/
theorem next_out_add (L n i : Nat) (h : i < n) :
    (L : Int) + ((n : Int) - (i : Int) - 1) = ((L + (n - (i + 1)) : Nat) : Int) := by omega

theorem arrs_getElem? (c : Sigs) (i : Nat) (h : i < c.items.length) :
    c.arrs[i]? = some { dtype := c.dtype, vals := c.items[i] } := by
  unfold Sigs.arrs
  rw [List.getElem?_map, List.getElem?_eq_getElem h]
  rfl

/-- `sigs[i]` for `i < len(sigs)` -/
theorem getItem?_arrs (c : Sigs) (i : Nat) (h : i < c.items.length) :
    getItem? c.arrs (i : Int) = some { dtype := c.dtype, vals := c.items[i] } := by
  rw [getItem?_nat, arrs_getElem? c i h]

/-- `sigs[a:len(sigs)]` -/
theorem sigs_slice_to_end (c : Sigs) (a : Nat) :
    c.get? (Py.Index.slice (a : Int) (c.items.length : Int)) = some { c with items := c.items.drop a } := by
  show some (c.getSlice (a : Int) (c.items.length : Int)) = _
  unfold Sigs.getSlice
  rw [slice_nat, List.take_of_length_le (by rw [List.length_drop]; exact Nat.le_refl _)]

/-- `out[a:b]` of a one-dimensional array -/
theorem view1_nat (o : ND) (vals : List UInt32) (h : o.rows = [vals]) (a b : Nat) :
    o.view1 (a : Int) (b : Int) = { okDtype := o.okDtype, shape := [(slc vals a b).length], rows := [slc vals a b] } := by
  unfold ND.view1 ND.vals1
  rw [h, List.headD_cons, slice_eq_slc]

/-- `out[a:b] = src` on a one-dimensional array -/
theorem put1_nat (o : ND) (vals : List UInt32) (h : o.rows = [vals]) (a : Nat) (hi : Int) (src : ND) :
    o.put1 (a : Int) hi src = { o with rows := [writeSlice vals a src.vals1] } := by
  unfold ND.put1 ND.vals1
  rw [h, List.headD_cons, putSlice_eq_writeSlice vals a hi _]

theorem flatRow_of_getElem? {α γ : Type} (dist : α → α → γ) (S : List α) (i : Nat) (s : α) (h : S[i]? = some s) :
    flatRow dist S i = (S.drop (i + 1)).map (dist s) := by
  unfold flatRow arrayDists
  rw [h]

/-- writing the next row behind the rows written so far -/
theorem writeSlice_prefix {γ : Type} (vals pre row : List γ) (N : Nat) (hl : vals.length = N)
    (hp : vals.take pre.length = pre) (hle : pre.length + row.length ≤ N) :
    (writeSlice vals pre.length row).length = N
      ∧ (writeSlice vals pre.length row).take (pre ++ row).length = pre ++ row := by
  unfold writeSlice
  rw [hp]
  constructor
  · rw [List.length_append, List.length_append, List.length_drop, hl, Nat.add_sub_cancel' hle]
  · exact List.take_left' rfl

/-- `np.fill_diagonal` on a list of rows, written as in `pairwiseSquareLoop` -/
theorem zipIdx_set_diag {γ : Type} (Z : List (List γ)) (v : γ) :
    Z.zipIdx.map (fun (ri : List γ × Nat) => ri.1.set ri.2 v) = (List.range Z.length).map (fun i => (Z.getD i []).set i v) :=
  eq_range_map (by rw [List.length_map, List.length_zipIdx]) (fun a ha => by
    rw [List.getElem?_map, List.getElem?_zipIdx, List.getElem?_eq_getElem ha, List.getElem_eq_getD []]
    simp only [Option.map_some, Nat.zero_add])

/-- `out[k, a:hi] = src` -/
theorem putRow_nat (ok : Bool) (sh : List Nat) (M : List (List UInt32)) (k a : Nat) (hi : Int) (src : ND) (rk : List UInt32)
    (hMk : M[k]? = some rk) :
    ND.putRow { okDtype := ok, shape := sh, rows := M } (k : Int) (a : Int) hi src
      = { okDtype := ok, shape := sh, rows := M.set k (writeSlice rk a src.vals1) } := by
  unfold ND.putRow
  simp only [getItem?_nat, hMk, Option.getD_some, putSlice_eq_writeSlice rk a hi _, listSet_nat]

/-- `out[k, a:b]` -/
theorem rowView_nat (ok : Bool) (sh : List Nat) (M : List (List UInt32)) (k a b : Nat) (r : List UInt32) (hMk : M[k]? = some r) :
    ND.rowView { okDtype := ok, shape := sh, rows := M } (k : Int) (a : Int) (b : Int)
      = { okDtype := ok, shape := [(slc r a b).length], rows := [slc r a b] } := by
  simp only [ND.rowView, getItem?_nat, hMk, Option.getD_some, slice_eq_slc]

/-- `out[a:hi, k] = src` -/
theorem putCol_nat (ok : Bool) (sh : List Nat) (M : List (List UInt32)) (a k : Nat) (hi : Int) (src : ND) (ha : a ≤ M.length) :
    ND.putCol { okDtype := ok, shape := sh, rows := M } (a : Int) hi (k : Int) src
      = { okDtype := ok, shape := sh, rows := M.zipIdx.map (fun (ri : List UInt32 × Nat) =>
            if a ≤ ri.2 ∧ ri.2 < a + src.vals1.length then ri.1.set k (src.vals1.getD (ri.2 - a) 0) else ri.1) } := by
  unfold ND.putCol
  simp only [clampBound_nat, Nat.min_eq_left ha, listSet_nat]

/-- reading back what `out[k, a:n] = row` wrote -/
theorem writeSlice_read {γ : Type} (r row : List γ) (a n : Nat) (hr : r.length = n) (hrow : row.length = n - a) (ha : a ≤ n) :
    slc (writeSlice r a row) a n = row := by
  unfold slc writeSlice
  rw [List.append_assoc, List.drop_left' (List.length_take_of_le (hr ▸ ha)), ← hrow, List.take_left]

/-- the column copy of `pairwiseSquareLoop` (entry `t` of `row` into cell `k` of row `k + 1 + t`) as one map over the rows -/
theorem colFold_eq_zipIdx (row : List UInt32) (k : Nat) (O : List (List UInt32)) :
    (List.range row.length).foldl (colStep row k) O
      = O.zipIdx.map (fun (ri : List UInt32 × Nat) =>
          if k + 1 ≤ ri.2 ∧ ri.2 < k + 1 + row.length then ri.1.set k (row.getD (ri.2 - (k + 1)) 0) else ri.1) := by
  apply List.ext_getElem?
  intro a
  rw [foldl_range_cells _ (k + 1) _ (colStep_cells row k), List.getElem?_map, List.getElem?_zipIdx]
  cases hO : O[a]? with
  | none => simp
  | some r =>
    simp only [Option.map_some, Nat.zero_add]
    by_cases h : k + 1 ≤ a ∧ a < k + 1 + row.length
    · have ht : a - (k + 1) < row.length := Nat.sub_lt_left_of_lt_add h.1 h.2
      simp only [if_pos h, List.getElem?_eq_getElem ht, ← List.getElem_eq_getD (h := ht)]
    · simp only [if_neg h]

/-- One iteration of the loop of `jaccarddist_pairwise(flat=False)` on the buffer: `out[k, k+1:n] = row` (through the view handed to
`jaccarddist_array`), then `out[k+1:n, k] = out[k, k+1:n]`, is one step of the model `pairwiseSquareLoop`. -/
theorem square_iter (ok : Bool) (sh : List Nat) (M : List (List UInt32)) (n k : Nat) (rk row : List UInt32) (src : ND)
    (hk : k + 1 ≤ n) (hlen : M.length = n) (hMk : M[k]? = some rk) (hrk : rk.length = n)
    (hrow : row.length = n - k - 1) (hsrc : src.vals1 = row) :
    ND.putRow { okDtype := ok, shape := sh, rows := M } (k : Int) ((k + 1 : Nat) : Int) (n : Int) src
        = { okDtype := ok, shape := sh, rows := M.set k (writeSlice rk (k + 1) row) }
    ∧ ND.putCol { okDtype := ok, shape := sh, rows := M.set k (writeSlice rk (k + 1) row) } ((k + 1 : Nat) : Int) (n : Int) (k : Int)
          (ND.rowView { okDtype := ok, shape := sh, rows := M.set k (writeSlice rk (k + 1) row) } (k : Int) ((k + 1 : Nat) : Int) (n : Int))
        = { okDtype := ok, shape := sh,
            rows := (List.range (n - k - 1)).foldl (colStep row k) (M.set k (writeSlice (M.getD k []) (k + 1) row)) } := by
  have hrow' : row.length = n - (k + 1) := hrow.trans (Nat.sub_sub n k 1)
  have hset : (M.set k (writeSlice rk (k + 1) row))[k]? = some (writeSlice rk (k + 1) row) := by
    rw [set_getElem?_of_some M k k rk _ hMk, if_pos rfl]
  have hlen' : k + 1 ≤ (M.set k (writeSlice rk (k + 1) row)).length := by
    rw [List.length_set, hlen]
    exact hk
  constructor
  · rw [putRow_nat ok sh M k (k + 1) _ src rk hMk, hsrc]
  · rw [rowView_nat ok sh _ k (k + 1) n _ hset, writeSlice_read rk row (k + 1) n hrk hrow' hk,
      putCol_nat ok sh _ (k + 1) k _ _ hlen', getD_of_getElem? hMk, ← hrow, colFold_eq_zipIdx]
    rfl

end GambitV.TiePair
