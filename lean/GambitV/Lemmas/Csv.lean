import GambitV.Model.Csv

/-!
The reader state machine of `Model/Csv.lean` run on what the writer renders, by field, by record, by file.  The invariant is
`run_writeCsv`: after the text of some records the reader is at a record start and has accumulated exactly those records.
`run`, `esc`, `joinFields`, `rowBody` name pieces of the model's reader and writer (`quoteField_eq`, `writeRow_eq`, by `rfl`;
`parseCsv t` is `(run Reader.init t).finish` by definition).  Core Lean only.
-/
namespace GambitV
namespace Csv

def run (r : Reader) (t : List Char) : Reader := t.foldl Reader.step r

theorem run_nil (r : Reader) : run r [] = r := rfl

theorem run_cons (r : Reader) (c : Char) (t : List Char) : run r (c :: t) = run (r.step c) t := rfl

theorem run_append (r : Reader) (s t : List Char) : run r (s ++ t) = run (run r s) t := by
  unfold run
  rw [List.foldl_append]

def esc (c : Char) : List Char := if c == '"' then ['"', '"'] else [c]

theorem quoteField_eq (f : List Char) : quoteField f = '"' :: (f.flatMap esc ++ ['"']) := rfl

/-- state the reader is in after a field delimiter -/
def delimSt (d : Char) : RState := if d == ',' then .startField else .eatCrnl

/-- `d` is a character that ends a field: the delimiter or a newline character -/
def IsDelim (d : Char) : Prop := d = ',' ∨ d = '\n' ∨ d = '\r'

/-- a character that may occur in an unquoted field -/
def IsPlain (c : Char) : Prop := c ≠ ',' ∧ c ≠ '"' ∧ c ≠ '\n' ∧ c ≠ '\r'

theorem isDelim_comma : IsDelim ',' := Or.inl rfl

theorem step_inField_plain {c : Char} (h : IsPlain c) (fld row rows) :
    Reader.step ⟨.inField, fld, row, rows⟩ c = ⟨.inField, c :: fld, row, rows⟩ := by
  obtain ⟨h1, _, h3, h4⟩ := h
  simp [Reader.step, isNl, h1, h3, h4]

theorem step_start_plain {c : Char} (h : IsPlain c) {st : RState} (hst : st = .startRecord ∨ st = .startField) (fld row rows) :
    Reader.step ⟨st, fld, row, rows⟩ c = ⟨.inField, c :: fld, row, rows⟩ := by
  obtain ⟨h1, h2, h3, h4⟩ := h
  rcases hst with rfl | rfl <;> simp [Reader.step, Reader.stepStart, isNl, h1, h2, h3, h4]

theorem step_startField_quote (fld row rows) :
    Reader.step ⟨.startField, fld, row, rows⟩ '"' = ⟨.inQuoted, fld, row, rows⟩ := rfl

theorem step_startRecord_quote (fld row rows) :
    Reader.step ⟨.startRecord, fld, row, rows⟩ '"' = ⟨.inQuoted, fld, row, rows⟩ := rfl

theorem step_inQuoted_quote (fld row rows) :
    Reader.step ⟨.inQuoted, fld, row, rows⟩ '"' = ⟨.quoteInQuoted, fld, row, rows⟩ := rfl

theorem step_quoteInQuoted_quote (fld row rows) :
    Reader.step ⟨.quoteInQuoted, fld, row, rows⟩ '"' = ⟨.inQuoted, '"' :: fld, row, rows⟩ := rfl

theorem step_inQuoted_other {c : Char} (h : c ≠ '"') (fld row rows) :
    Reader.step ⟨.inQuoted, fld, row, rows⟩ c = ⟨.inQuoted, c :: fld, row, rows⟩ := by
  simp [Reader.step, h]

/-- a delimiter ends the field in every state but `startRecord`, `inQuoted`, `eatCrnl` -/
theorem step_delim {d : Char} (h : IsDelim d) {st : RState}
    (hst : st = .inField ∨ st = .startField ∨ st = .quoteInQuoted) (fld row rows) :
    Reader.step ⟨st, fld, row, rows⟩ d = ⟨delimSt d, [], fld.reverse :: row, rows⟩ := by
  rcases hst with rfl | rfl | rfl <;> rcases h with rfl | rfl | rfl <;> rfl

theorem step_startRecord_comma (fld row rows) :
    Reader.step ⟨.startRecord, fld, row, rows⟩ ',' = ⟨.startField, [], fld.reverse :: row, rows⟩ := rfl

/-- in `eatCrnl`, a character other than `\n` is processed as the first character of the next record -/
theorem step_eatCrnl {c : Char} (h : c ≠ '\n') (fld row rows) :
    Reader.step ⟨.eatCrnl, fld, row, rows⟩ c = Reader.step ⟨.startRecord, [], [], row.reverse :: rows⟩ c := by
  simp [Reader.step, h, Reader.endRecord]

theorem step_eatCrnl_nl (fld row rows) :
    Reader.step ⟨.eatCrnl, fld, row, rows⟩ '\n' = ⟨.startRecord, [], [], row.reverse :: rows⟩ := rfl

theorem run_inField (f : List Char) (hf : ∀ c ∈ f, IsPlain c) (fld row rows) :
    run ⟨.inField, fld, row, rows⟩ f = ⟨.inField, f.reverse ++ fld, row, rows⟩ := by
  induction f generalizing fld with
  | nil => rfl
  | cons c f ih =>
    rw [run_cons, step_inField_plain (hf c (List.mem_cons_self ..)),
      ih (fun x hx => hf x (List.mem_cons_of_mem _ hx))]
    simp

theorem run_esc (c : Char) (fld row rows) :
    run ⟨.inQuoted, fld, row, rows⟩ (esc c) = ⟨.inQuoted, c :: fld, row, rows⟩ := by
  by_cases hc : c = '"'
  · subst hc; rfl
  · simp [esc, hc, run_cons, run_nil, step_inQuoted_other hc]

theorem run_inQuoted (f : List Char) (fld row rows) :
    run ⟨.inQuoted, fld, row, rows⟩ (f.flatMap esc) = ⟨.inQuoted, f.reverse ++ fld, row, rows⟩ := by
  induction f generalizing fld with
  | nil => rfl
  | cons c f ih =>
    rw [List.flatMap_cons, run_append, run_esc, ih]
    simp

theorem isDelim_ne_quote {d : Char} (h : IsDelim d) : d ≠ '"' := by
  rcases h with h | h | h <;> subst h <;> decide

theorem run_quoted (f : List Char) {d : Char} (hd : IsDelim d) {st : RState} (hst : st = .startRecord ∨ st = .startField)
    (row rows) : run ⟨st, [], row, rows⟩ (quoteField f ++ [d]) = ⟨delimSt d, [], f :: row, rows⟩ := by
  have h1 : Reader.step ⟨st, [], row, rows⟩ '"' = ⟨.inQuoted, [], row, rows⟩ := by rcases hst with rfl | rfl <;> rfl
  rw [quoteField_eq, List.cons_append, run_cons, h1, List.append_assoc, run_append, run_inQuoted, List.cons_append,
    List.nil_append, run_cons, run_cons, run_nil, step_inQuoted_quote, step_delim hd (.inr (.inr rfl))]
  simp

theorem needsQuote_eq_false_iff {lt f : List Char} :
    needsQuote lt f = false ↔ ∀ c ∈ f, c ≠ ',' ∧ c ≠ '"' ∧ c ∉ lt := by
  simp [needsQuote, and_assoc]

theorem plain_of_ok {lt f : List Char} (hq : needsQuote lt f = false) (hok : fieldOk lt f = true) :
    ∀ c ∈ f, IsPlain c := by
  have h1 := needsQuote_eq_false_iff.1 hq
  have h2 : ∀ c ∈ f, c ≠ '\n' ∧ c ≠ '\r' := by simpa [fieldOk, hq, isNl] using hok
  exact fun c hc => ⟨(h1 c hc).1, (h1 c hc).2.1, (h2 c hc).1, (h2 c hc).2⟩

theorem run_unquoted_cons (c : Char) (f : List Char) (hf : ∀ x ∈ c :: f, IsPlain x) {d : Char}
    (hd : IsDelim d) {st : RState} (hst : st = .startRecord ∨ st = .startField) (row rows) :
    run ⟨st, [], row, rows⟩ ((c :: f) ++ [d]) = ⟨delimSt d, [], (c :: f) :: row, rows⟩ := by
  rw [List.cons_append, run_cons, step_start_plain (hf c (List.mem_cons_self ..)) hst, run_append,
    run_inField f (fun x hx => hf x (List.mem_cons_of_mem _ hx)), run_cons, run_nil, step_delim hd (.inl rfl)]
  simp

/-- A field and the delimiter after it, read at the start of a record or of a later field.  Excluded at the start of a record: the
empty rendering followed by a newline (a record consisting of one empty field, which the writer renders as `""`). -/
theorem run_field {lt f : List Char} (hok : fieldOk lt f = true) {d : Char} (hd : IsDelim d) {st : RState}
    (hst : st = .startRecord ∨ st = .startField) (hne : st = .startRecord → writeField lt f ≠ [] ∨ d = ',') (row rows) :
    run ⟨st, [], row, rows⟩ (writeField lt f ++ [d]) = ⟨delimSt d, [], f :: row, rows⟩ := by
  unfold writeField at hne ⊢
  cases hq : needsQuote lt f
  · simp only [hq, Bool.false_eq_true, if_false] at hne ⊢
    cases f with
    | nil =>
      rcases hst with rfl | rfl
      · rcases hne rfl with h | rfl
        · exact absurd rfl h
        · rfl
      · rw [List.nil_append, run_cons, run_nil, step_delim hd (.inr (.inl rfl))]; rfl
    | cons c f => exact run_unquoted_cons c f (plain_of_ok hq hok) hd hst row rows
  · simp only [if_true]
    exact run_quoted f hd hst row rows

theorem writeField_ne_nil {lt f : List Char} (h : f ≠ []) : writeField lt f ≠ [] := by
  unfold writeField
  split
  · rw [quoteField_eq]; exact List.cons_ne_nil _ _
  · exact h

def joinFields (lt : List Char) (fs : List (List Char)) : List Char :=
  ((fs.map (writeField lt)).intersperse [',']).flatten

theorem joinFields_single (lt : List Char) (f : List Char) : joinFields lt [f] = writeField lt f := by
  simp [joinFields]

theorem joinFields_cons₂ (lt : List Char) (f g : List Char) (fs : List (List Char)) :
    joinFields lt (f :: g :: fs) = writeField lt f ++ [','] ++ joinFields lt (g :: fs) := by
  simp [joinFields]

/-- the fields of a record and the delimiter after them; at the start of a record the fields are not the single empty one -/
theorem run_fields {lt : List Char} (fs : List (List Char)) (hne : fs ≠ [])
    (hok : ∀ f ∈ fs, fieldOk lt f = true) {d : Char} (hd : IsDelim d) {st : RState}
    (hst : st = .startRecord ∨ st = .startField) (h1 : st = .startRecord → fs ≠ [[]]) (row rows) :
    run ⟨st, [], row, rows⟩ (joinFields lt fs ++ [d]) = ⟨delimSt d, [], fs.reverse ++ row, rows⟩ := by
  induction fs generalizing row st with
  | nil => exact absurd rfl hne
  | cons f fs ih =>
    cases fs with
    | nil =>
      rw [joinFields_single, run_field (hok f (List.mem_cons_self ..)) hd hst
        (fun h => .inl (writeField_ne_nil (by rintro rfl; exact h1 h rfl)))]
      rfl
    | cons g fs =>
      rw [joinFields_cons₂, List.append_assoc, run_append,
        run_field (hok f (List.mem_cons_self ..)) (.inl rfl) hst (fun _ => .inr rfl)]
      have : delimSt ',' = .startField := rfl
      rw [this, ih (by simp) (fun x hx => hok x (List.mem_cons_of_mem _ hx)) (.inr rfl) nofun]
      simp

/-- the rendering of a record without its terminator -/
def rowBody (lt : List Char) (row : List (List Char)) : List Char :=
  if row == [[]] then ['"', '"'] else joinFields lt row

theorem writeRow_eq (lt : List Char) (row : List (List Char)) : writeRow lt row = rowBody lt row ++ lt := rfl

theorem rowBody_of_ne {lt : List Char} {row : List (List Char)} (h : row ≠ [[]]) : rowBody lt row = joinFields lt row := by
  simp [rowBody, h]

theorem run_rowBody {lt : List Char} (row : List (List Char)) (hne : row ≠ [])
    (hok : ∀ f ∈ row, fieldOk lt f = true) {d : Char} (hd : d = '\n' ∨ d = '\r') (rows) :
    run ⟨.startRecord, [], [], rows⟩ (rowBody lt row ++ [d]) = ⟨.eatCrnl, [], row.reverse, rows⟩ := by
  have hst : delimSt d = .eatCrnl := by rcases hd with rfl | rfl <;> rfl
  by_cases h : row = [[]]
  · subst h
    exact hst ▸ run_quoted [] (.inr hd) (.inl rfl) [] rows
  · rw [rowBody_of_ne h, run_fields row hne hok (.inr hd) (.inl rfl) (fun _ => h), hst, List.append_nil]

/-! ### the first character of a record is never `\n` (in `eatCrnl` the reader would take it for the end of a `\r\n`) -/

theorem writeField_head?_ne_nl {lt : List Char} (hnl : lt.contains '\n' = true) (f : List Char) :
    (writeField lt f).head? ≠ some '\n' := by
  unfold writeField
  split
  · simp [quoteField_eq]
  · rename_i hq
    cases f with
    | nil => simp
    | cons c f =>
      simp only [List.head?_cons, ne_eq, Option.some.injEq]
      rintro rfl
      exact (needsQuote_eq_false_iff.1 (by simpa using hq) _ (List.mem_cons_self ..)).2.2 (by simpa using hnl)

theorem writeRow_head?_ne_nl {lt : List Char} (hnl : lt.contains '\n' = true) (row : List (List Char)) (hne : row ≠ []) :
    (writeRow lt row).head? ≠ some '\n' := by
  unfold writeRow
  split
  · simp
  · rename_i h
    rcases row with _ | ⟨f, _ | ⟨g, fs⟩⟩
    · exact absurd rfl hne
    · obtain ⟨c, t, e⟩ := List.exists_cons_of_ne_nil (writeField_ne_nil (lt := lt) (f := f) (by rintro rfl; simp at h))
      have := writeField_head?_ne_nl hnl f
      rw [e] at this
      simpa [e] using this
    · -- the first field's rendering, or if that is empty the comma after it
      have := writeField_head?_ne_nl hnl f
      cases e : writeField lt f with
      | nil => simp [e]
      | cons c t =>
        rw [e] at this
        simpa [e] using this

theorem writeCsv_cons (lt : List Char) (row) (rows : List (List (List Char))) :
    writeCsv lt (row :: rows) = writeRow lt row ++ writeCsv lt rows := by
  simp [writeCsv]

theorem writeCsv_head?_ne_nl {lt : List Char} (hnl : lt.contains '\n' = true) (rows : List (List (List Char)))
    (hne : ∀ row ∈ rows, row ≠ []) : (writeCsv lt rows).head? ≠ some '\n' := by
  induction rows with
  | nil => simp [writeCsv]
  | cons row rows ih =>
    have h1 := writeRow_head?_ne_nl hnl row (hne row (List.mem_cons_self ..))
    have h2 := ih (fun r hr => hne r (List.mem_cons_of_mem _ hr))
    rw [writeCsv_cons, List.head?_append]
    cases e : (writeRow lt row).head? with
    | none => simpa using h2
    | some c => simpa [e] using h1

/-- a pending record end (`eatCrnl`) followed by text that does not start with `\n` is the same as
the record already ended -/
theorem finish_run_eatCrnl (t : List Char) (ht : t.head? ≠ some '\n') (fld row rows) :
    (run ⟨.eatCrnl, fld, row, rows⟩ t).finish = (run ⟨.startRecord, [], [], row.reverse :: rows⟩ t).finish := by
  cases t with
  | nil => rfl
  | cons c t' => rw [run_cons, run_cons, step_eatCrnl (by simpa using ht)]

theorem run_writeCsv {lt : List Char} (hlt : lt = ['\n'] ∨ lt = ['\r', '\n'])
    (rows : List (List (List Char))) (hne : ∀ row ∈ rows, row ≠ [])
    (hok : ∀ row ∈ rows, ∀ f ∈ row, fieldOk lt f = true) (acc : List (List (List Char))) :
    (run ⟨.startRecord, [], [], acc⟩ (writeCsv lt rows)).finish = acc.reverse ++ rows := by
  induction rows generalizing acc with
  | nil => simp [writeCsv, run_nil, Reader.finish]
  | cons row rows ih =>
    have hne' : ∀ r ∈ rows, r ≠ [] := fun r hr => hne r (List.mem_cons_of_mem _ hr)
    have hok' : ∀ r ∈ rows, ∀ f ∈ r, fieldOk lt f = true := fun r hr => hok r (List.mem_cons_of_mem _ hr)
    have hrow := hne row (List.mem_cons_self ..)
    have hokr := hok row (List.mem_cons_self ..)
    rw [writeCsv_cons, writeRow_eq, run_append]
    rcases hlt with hlt | hlt
    · have e : rowBody lt row ++ lt = rowBody lt row ++ ['\n'] := by rw [hlt]
      rw [e, run_rowBody row hrow hokr (Or.inl rfl),
        finish_run_eatCrnl _ (writeCsv_head?_ne_nl (by rw [hlt]; decide) rows hne'), ih hne' hok']
      simp
    · have e : rowBody lt row ++ lt = (rowBody lt row ++ ['\r']) ++ ['\n'] := by rw [hlt]; simp
      rw [e, run_append, run_rowBody row hrow hokr (Or.inr rfl), run_cons, run_nil, step_eatCrnl_nl,
        ih hne' hok']
      simp

/-- the guard fails exactly when nothing forces quoting and a newline character occurs -/
theorem fieldOk_eq_false_iff (lt f : List Char) :
    fieldOk lt f = false ↔ (∀ c ∈ f, c ≠ ',' ∧ c ≠ '"' ∧ c ∉ lt) ∧ ∃ c ∈ f, c = '\n' ∨ c = '\r' := by
  simp [fieldOk, needsQuote, isNl, List.any_eq_true, and_assoc]

/-- every table whose rows are non-empty and whose fields satisfy `fieldOk`
(i.e. every field except one with a newline character the writer leaves unquoted) reads back
as written. -/
theorem csv_roundtrip (lt : List Char) (hlt : lt = ['\n'] ∨ lt = ['\r', '\n'])
    (rows : List (List (List Char))) (hne : ∀ row ∈ rows, row ≠ [])
    (hok : ∀ row ∈ rows, ∀ f ∈ row, fieldOk lt f = true) :
    parseCsv (writeCsv lt rows) = rows :=
  run_writeCsv hlt rows hne hok []

/-- with the default terminator `\r\n`, every field is written so that it survives -/
theorem fieldOk_crlf (f : List Char) : fieldOk ['\r', '\n'] f = true := by
  rw [← Bool.not_eq_false, fieldOk_eq_false_iff]
  rintro ⟨h, c, hc, hnl⟩
  have := (h c hc).2.2
  rcases hnl with rfl | rfl <;> simp at this

theorem csv_roundtrip_crlf (rows : List (List (List Char))) (hne : ∀ row ∈ rows, row ≠ []) :
    parseCsv (writeCsv ['\r', '\n'] rows) = rows :=
  csv_roundtrip _ (Or.inr rfl) rows hne (fun _ _ f _ => fieldOk_crlf f)

/-- Finding C11-F1 as a theorem about the model: with terminator `"\n"`, a field containing a bare
`\r` (and nothing else that forces quoting) is written unquoted and splits the record on reading. -/
theorem bare_cr_counterexample :
    parseCsv (writeCsv ['\n'] [[['a', '\r', 'b'], ['c']]]) ≠ [[['a', '\r', 'b'], ['c']]] := by
  decide

end Csv

end GambitV
