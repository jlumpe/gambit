import GambitV.Model.PyRt

/-!
Helper lemmas for `GambitV.Tie.PyParams`: text vs bytes.  The translated `kspec_from_params` upper-cases the prefix as TEXT
(`Char.toUpper`), encodes it as ASCII and lets `KmerSpec` upper-case the BYTES again; the model upper-cases bytes directly.
For bytes below 128 the two agree (checked on all 128 values by kernel evaluation).
-/
namespace GambitV.TiePyParams
open GambitV

/-- a byte as the character the command line hands over -/
def charOf (b : UInt8) : Char := Char.ofNat b.toNat

theorem upper_char (b : UInt8) (h : b.toNat < 128) :
    UInt8.ofNat (Char.toUpper (charOf b)).toNat = upperByte b ∧ (Char.toUpper (charOf b)).toNat < 128 := by
  have : ∀ n : Fin 128, UInt8.ofNat (Char.toUpper (Char.ofNat n.val)).toNat = upperByte (UInt8.ofNat n.val)
      ∧ (Char.toUpper (Char.ofNat n.val)).toNat < 128 := by decide +kernel
  simpa [charOf] using this ⟨b.toNat, h⟩

/-- an upper-cased letter lies in `A`–`Z`, so upper-casing again leaves it alone -/
theorem upperByte_idem (b : UInt8) : upperByte (upperByte b) = upperByte b := by
  unfold upperByte
  by_cases h : 97 ≤ b ∧ b ≤ 122
  · have hle : (32 : UInt8) ≤ b := UInt8.le_trans (by decide) h.1
    have h1 : ¬ (97 ≤ b - 32 ∧ b - 32 ≤ 122) := by
      simp only [UInt8.le_iff_toNat_le, UInt8.toNat_sub_of_le _ _ hle, UInt8.reduceToNat] at h ⊢
      omega
    rw [if_pos h, if_neg h1]
  · rw [if_neg h, if_neg h]

theorem upper_idem (p : List UInt8) : upper (upper p) = upper p := by
  simp [upper, upperByte_idem]

theorem isAscii_upper_text (p : List UInt8) (hp : ∀ b ∈ p, b.toNat < 128) :
    Py.isAscii (Py.strUpper (p.map charOf)) = true := by
  simp only [Py.isAscii, Py.strUpper, List.all_map, List.all_eq_true]
  intro b hb
  simpa using (upper_char b (hp b hb)).2

theorem encode_upper_text (p : List UInt8) (hp : ∀ b ∈ p, b.toNat < 128) :
    Py.encodeAscii (Py.strUpper (p.map charOf)) = upper p := by
  simp only [Py.encodeAscii, Py.strUpper, upper, List.map_map]
  apply List.map_congr_left
  intro b hb
  simpa using (upper_char b (hp b hb)).1

end GambitV.TiePyParams
