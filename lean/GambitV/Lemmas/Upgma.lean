import GambitV.Model.Upgma
import GambitV.Lemmas.Cluster
import GambitV.Lemmas.MinOf

/-!
Proofs about the UPGMA model (`Model/Upgma.lean`).  `sumD` is read as a double sum and average distances are compared as
cross-multiplied fractions; `argminPair` is a first-minimum fold (`Lemmas/MinOf.lean`); `upgmaRun` is followed with the loop
invariant `UInv`; heights are monotone because merging a closest pair leaves no pair closer (reducibility); a replayed merge
sequence is compared with the model's own up to the order of members and of children (`RelS`).  Core Lean only.
-/
namespace GambitV

/-- the matrix is symmetric (as `sumD` reads it) -/
def SymmD (D : List (List Int)) : Prop := ∀ a b, dAt D a b = dAt D b a
def NonnegD (D : List (List Int)) : Prop := ∀ a b, 0 ≤ dAt D a b

/-! ### `sumD` as a double sum -/

def rowSum (D : List (List Int)) (a : Nat) (B : List Nat) : Int := (B.map (fun b => dAt D a b)).sum

theorem foldl_add_eq_sum {α : Type} (f : α → Int) (l : List α) (acc : Int) :
    l.foldl (fun acc x => acc + f x) acc = acc + (l.map f).sum := by
  induction l generalizing acc with
  | nil => simp
  | cons x l ih =>
    rw [List.foldl_cons, ih, List.map_cons, List.sum_cons]
    omega

theorem sumD_eq (D : List (List Int)) (A B : List Nat) :
    sumD D A B = (A.map (fun a => rowSum D a B)).sum := by
  unfold sumD
  simp only [foldl_add_eq_sum, rowSum, dAt]
  omega

theorem sumD_nil_left (D : List (List Int)) (B : List Nat) : sumD D [] B = 0 := by
  rw [sumD_eq]; rfl

theorem sumD_cons_left (D : List (List Int)) (a : Nat) (A B : List Nat) :
    sumD D (a :: A) B = rowSum D a B + sumD D A B := by
  rw [sumD_eq, sumD_eq]; rfl

theorem sumD_append_left (D : List (List Int)) (A A' B : List Nat) :
    sumD D (A ++ A') B = sumD D A B + sumD D A' B := by
  rw [sumD_eq, sumD_eq, sumD_eq, List.map_append, List.sum_append_int]

theorem rowSum_append (D : List (List Int)) (a : Nat) (B B' : List Nat) :
    rowSum D a (B ++ B') = rowSum D a B + rowSum D a B' := by
  unfold rowSum
  rw [List.map_append, List.sum_append_int]

theorem sumD_append_right (D : List (List Int)) (A B B' : List Nat) :
    sumD D A (B ++ B') = sumD D A B + sumD D A B' := by
  induction A with
  | nil => simp [sumD_nil_left]
  | cons a A ih =>
    rw [sumD_cons_left, sumD_cons_left, sumD_cons_left, ih, rowSum_append]
    omega

theorem sumD_nil_right (D : List (List Int)) (A : List Nat) : sumD D A [] = 0 := by
  induction A with
  | nil => exact sumD_nil_left D []
  | cons a A ih => rw [sumD_cons_left, ih]; rfl

theorem sumD_cons_right (D : List (List Int)) (A : List Nat) (b : Nat) (B : List Nat) :
    sumD D A (b :: B) = (A.map (fun a => dAt D a b)).sum + sumD D A B := by
  induction A with
  | nil => simp [sumD_nil_left]
  | cons a A ih =>
    rw [sumD_cons_left, sumD_cons_left, ih]
    simp only [rowSum, List.map_cons, List.sum_cons]
    omega

theorem sumD_symm {D : List (List Int)} (hs : SymmD D) (A B : List Nat) : sumD D A B = sumD D B A := by
  induction A with
  | nil => rw [sumD_nil_left, sumD_nil_right]
  | cons a A ih =>
    rw [sumD_cons_left, sumD_cons_right, ih]
    exact congrArg (· + _) (congrArg List.sum (List.map_congr_left fun b _ => hs a b))

theorem sum_map_nonneg {α : Type} {f : α → Int} (l : List α) (h : ∀ x, 0 ≤ f x) : 0 ≤ (l.map f).sum := by
  induction l with
  | nil => exact Int.le_refl 0
  | cons x l ih =>
    rw [List.map_cons, List.sum_cons]
    exact Int.add_nonneg (h x) ih

theorem sumD_nonneg {D : List (List Int)} (hp : NonnegD D) (A B : List Nat) : 0 ≤ sumD D A B :=
  sumD_eq D A B ▸ sum_map_nonneg A fun a => sum_map_nonneg B (hp a)

theorem sum_perm_int {l l' : List Int} (h : l.Perm l') : l.sum = l'.sum := by
  rw [List.sum_eq_foldr, List.sum_eq_foldr]
  exact h.foldr_eq' (fun x _ y _ z => by omega) 0

theorem sumD_perm (D : List (List Int)) {A A' B B' : List Nat} (hA : A.Perm A') (hB : B.Perm B') :
    sumD D A B = sumD D A' B' := by
  rw [sumD_eq, sumD_eq, sum_perm_int (hA.map (fun a => rowSum D a B))]
  exact congrArg List.sum (List.map_congr_left fun a _ => sum_perm_int (hB.map _))

/-! ### `avgLt`: average distances compared as cross-multiplied fractions -/

theorem avgLt_false_iff (D : List (List Int)) (A B C E : List Nat) :
    avgLt D A B C E = false ↔
      sumD D C E * ((A.length * B.length : Nat) : Int) ≤ sumD D A B * ((C.length * E.length : Nat) : Int) := by
  unfold avgLt
  simp only [decide_eq_false_iff_not, Int.not_lt]

theorem avgLt_true_iff (D : List (List Int)) (A B C E : List Nat) :
    avgLt D A B C E = true ↔
      sumD D A B * ((C.length * E.length : Nat) : Int) < sumD D C E * ((A.length * B.length : Nat) : Int) := by
  unfold avgLt
  simp only [decide_eq_true_eq]

theorem avgLt_swap {D : List (List Int)} (hs : SymmD D) (P Q A B : List Nat) :
    avgLt D P Q A B = avgLt D Q P A B := by
  unfold avgLt
  rw [sumD_symm hs P Q, Nat.mul_comm P.length]

theorem avgLt_swap_right {D : List (List Int)} (hs : SymmD D) (P Q A B : List Nat) :
    avgLt D P Q A B = avgLt D P Q B A := by
  unfold avgLt
  rw [sumD_symm hs A B, Nat.mul_comm A.length]

theorem avgLt_congr (D : List (List Int)) {A A' B B' C C' E E' : List Nat} (hA : A.Perm A') (hB : B.Perm B')
    (hC : C.Perm C') (hE : E.Perm E') : avgLt D A B C E = avgLt D A' B' C' E' := by
  unfold avgLt
  rw [sumD_perm D hA hB, sumD_perm D hC hE, hA.length_eq, hB.length_eq, hC.length_eq, hE.length_eq]

theorem length_mul_pos {A B : List Nat} (ha : A ≠ []) (hb : B ≠ []) :
    (0 : Int) < ((A.length * B.length : Nat) : Int) :=
  Int.natCast_pos.2 (Nat.mul_pos (List.length_pos_iff.2 ha) (List.length_pos_iff.2 hb))

theorem frac_le_trans {a b c d e f : Int} (hb : 0 < b) (hd : 0 < d) (hf : 0 < f)
    (h1 : a * d ≤ c * b) (h2 : c * f ≤ e * d) : a * f ≤ e * b := by
  refine Int.le_of_mul_le_mul_right ?_ hd
  calc a * f * d = a * d * f := by ac_rfl
    _ ≤ c * b * f := Int.mul_le_mul_of_nonneg_right h1 (Int.le_of_lt hf)
    _ = c * f * b := by ac_rfl
    _ ≤ e * d * b := Int.mul_le_mul_of_nonneg_right h2 (Int.le_of_lt hb)
    _ = e * b * d := by ac_rfl

theorem avgLt_irrefl (D : List (List Int)) (A B : List Nat) : avgLt D A B A B = false :=
  (avgLt_false_iff ..).2 (Int.le_refl _)

/-- for non-empty lists: `avg C E ≤ avg A B` and `avg P Q < avg C E` give `avg P Q ≤ avg A B`; the shape `Lemmas/MinOf.lean` asks for -/
theorem avgLt_notLt_of_lt {D : List (List Int)} {A B C E P Q : List Nat} (hA : A ≠ []) (hB : B ≠ []) (hC : C ≠ []) (hE : E ≠ [])
    (hP : P ≠ []) (hQ : Q ≠ []) (h1 : avgLt D A B C E = false) (h2 : avgLt D P Q C E = true) : avgLt D A B P Q = false := by
  rw [avgLt_false_iff] at h1 ⊢
  rw [avgLt_true_iff] at h2
  exact frac_le_trans (length_mul_pos hP hQ) (length_mul_pos hC hE) (length_mul_pos hA hB) (Int.le_of_lt h2) h1

theorem mediant_le {hn hd x y ca cb : Int} (h1 : hn * ca ≤ x * hd) (h2 : hn * cb ≤ y * hd) :
    hn * (ca + cb) ≤ (x + y) * hd := by
  rw [Int.mul_add, Int.add_mul]
  omega

/-! ### `argminPair` and `stepTieFree` -/

theorem mem_idxPairs {k i j : Nat} : (i, j) ∈ idxPairs k ↔ i < j ∧ j < k := by
  unfold idxPairs
  simp only [List.mem_flatMap, List.mem_range, List.mem_map, List.mem_filter, decide_eq_true_eq,
    Prod.mk.injEq]
  constructor
  · rintro ⟨a, ha, b, ⟨hb, hab⟩, rfl, rfl⟩
    exact ⟨hab, hb⟩
  · rintro ⟨h1, h2⟩
    exact ⟨i, by omega, j, ⟨h2, h1⟩, rfl, rfl⟩

theorem idxPairs_ne_nil {k : Nat} (hk : 2 ≤ k) : idxPairs k ≠ [] :=
  List.ne_nil_of_mem (mem_idxPairs.2 ⟨Nat.zero_lt_one, hk⟩)

/-- the comparison used by `argminPair` -/
def pairLt (D : List (List Int)) (act : List Clus) (p b : Nat × Nat) : Bool :=
  avgLt D (memAt act p.1) (memAt act p.2) (memAt act b.1) (memAt act b.2)

theorem argminPair_eq (D : List (List Int)) (act : List Clus) :
    argminPair D act = (idxPairs act.length).foldl (argStep (pairLt D act)) none := by
  unfold argminPair
  congr 1
  funext best p
  cases best <;> rfl

theorem memAt_lt {act : List Clus} {i : Nat} (h : i < act.length) : memAt act i = act[i].mem :=
  congrArg Clus.mem (List.getElem_eq_getD _).symm

/-- no two clusters of `act` are closer on average than `A` and `B` are -/
def NoCloser (D : List (List Int)) (A B : List Nat) (act : List Clus) : Prop :=
  act.Pairwise fun X Y => avgLt D X.mem Y.mem A B = false

theorem noCloser_iff {D : List (List Int)} {A B : List Nat} {act : List Clus} :
    NoCloser D A B act ↔ ∀ p q, p < q → q < act.length → avgLt D (memAt act p) (memAt act q) A B = false := by
  unfold NoCloser
  rw [List.pairwise_iff_getElem]
  constructor
  · intro h p q hpq hq
    rw [memAt_lt (show p < act.length by omega), memAt_lt hq]
    exact h p q _ hq hpq
  · intro h p q hp hq hpq
    rw [← memAt_lt hp, ← memAt_lt hq]
    exact h p q hpq hq

theorem argminPair_spec (D : List (List Int)) (act : List Clus) (hlen : 2 ≤ act.length)
    (hne : ∀ c ∈ act, c.mem ≠ []) :
    ∃ i j, argminPair D act = some (i, j) ∧ i < j ∧ j < act.length ∧
      NoCloser D (memAt act i) (memAt act j) act := by
  have hmem : ∀ i, i < act.length → memAt act i ≠ [] := fun i hi => memAt_lt hi ▸ hne _ (List.getElem_mem hi)
  let G : Nat × Nat → Prop := fun p => memAt act p.1 ≠ [] ∧ memAt act p.2 ≠ []
  have hG : ∀ p ∈ idxPairs act.length, G p := by
    rintro ⟨p, q⟩ hp
    obtain ⟨h1, h2⟩ := mem_idxPairs.1 hp
    exact ⟨hmem p (by omega), hmem q h2⟩
  obtain ⟨⟨i, j⟩, hb, h1, h2⟩ := argStep_foldl_min (lt := pairLt D act) (fun a => avgLt_irrefl D _ _)
    (fun a b c ha hb hc => avgLt_notLt_of_lt ha.1 ha.2 hb.1 hb.2 hc.1 hc.2) (idxPairs_ne_nil hlen) hG
  obtain ⟨hij, hj⟩ := mem_idxPairs.1 hb
  exact ⟨i, j, (argminPair_eq D act).trans h1, hij, hj,
    noCloser_iff.2 fun p q hpq hq => h2 (p, q) (mem_idxPairs.2 ⟨hpq, hq⟩)⟩

/-- without a tie, every position pair other than the one chosen is strictly farther apart -/
theorem stepTieFree_spec {D : List (List Int)} {act : List Clus} {i j : Nat} (htf : stepTieFree D act = true)
    (harg : argminPair D act = some (i, j)) {p q : Nat} (hpq : p < q) (hq : q < act.length) :
    (p = i ∧ q = j) ∨ avgLt D (memAt act i) (memAt act j) (memAt act p) (memAt act q) = true := by
  unfold stepTieFree at htf
  rw [harg] at htf
  simp only [List.all_eq_true, Bool.or_eq_true, beq_iff_eq] at htf
  rcases htf _ (mem_idxPairs.2 ⟨hpq, hq⟩) with he | hlt
  · exact Or.inl (Prod.mk.inj he)
  · exact Or.inr hlt

/-- the same for a pair of distinct positions named in either order -/
theorem stepTieFree_unordered {D : List (List Int)} (hs : SymmD D) {act : List Clus} {i j : Nat}
    (htf : stepTieFree D act = true) (harg : argminPair D act = some (i, j)) {a b : Nat} (hab : a ≠ b)
    (ha : a < act.length) (hb : b < act.length) :
    (a = i ∧ b = j) ∨ (a = j ∧ b = i) ∨ avgLt D (memAt act i) (memAt act j) (memAt act a) (memAt act b) = true := by
  rcases Nat.lt_or_gt_of_ne hab with h | h
  · exact (stepTieFree_spec htf harg h hb).imp id Or.inr
  · rcases stepTieFree_spec htf harg h ha with e | hlt
    · exact Or.inr (Or.inl ⟨e.2, e.1⟩)
    · exact Or.inr (Or.inr (by rw [avgLt_swap_right hs]; exact hlt))

/-! ### one step of `upgmaRun` as the merge of two positions (`mergeState`), and what it preserves (`UInv`) -/

def clAt (act : List Clus) (i : Nat) : Clus := act.getD i ⟨0, []⟩

theorem memAt_eq (act : List Clus) (i : Nat) : memAt act i = (clAt act i).mem := rfl

theorem clAt_lt {act : List Clus} {i : Nat} (h : i < act.length) : clAt act i = act[i] :=
  (List.getElem_eq_getD _).symm

/-- the row emitted when merging positions `i < j` -/
def mergeRow (D : List (List Int)) (act : List Clus) (i j : Nat) : QRow :=
  ⟨(clAt act i).id, (clAt act j).id, sumD D (clAt act i).mem (clAt act j).mem,
    (clAt act i).mem.length * (clAt act j).mem.length⟩

/-- the state after merging positions `i < j` -/
def mergeState (D : List (List Int)) (s : UState) (i j : Nat) : UState :=
  { act := (s.act.eraseIdx j).eraseIdx i ++ [⟨s.next, (clAt s.act i).mem ++ (clAt s.act j).mem⟩],
    rows := s.rows ++ [mergeRow D s.act i j],
    next := s.next + 1 }

theorem upgmaStep_some {D : List (List Int)} {s : UState} {i j : Nat}
    (h : argminPair D s.act = some (i, j)) : upgmaStep D s = mergeState D s i j := by
  unfold upgmaStep
  rw [h]
  rfl

theorem upgmaRun_add (D : List (List Int)) (k m : Nat) (s : UState) :
    upgmaRun D (k + m) s = upgmaRun D m (upgmaRun D k s) := by
  induction k generalizing s with
  | zero => rw [Nat.zero_add]; rfl
  | succ k ih => rw [Nat.add_right_comm]; exact ih _

theorem upgmaRun_succ (D : List (List Int)) (k : Nat) (s : UState) :
    upgmaRun D (k + 1) s = upgmaStep D (upgmaRun D k s) := upgmaRun_add D k 1 s

theorem perm_eraseIdx {α : Type} (l : List α) (i : Nat) (h : i < l.length) :
    l.Perm (l[i] :: l.eraseIdx i) := by
  rw [List.eraseIdx_eq_take_drop_succ]
  have e : l = l.take i ++ l[i] :: l.drop (i + 1) := by
    rw [← List.drop_eq_getElem_cons h, List.take_append_drop]
  exact (List.Perm.of_eq e).trans List.perm_middle

theorem perm_erase2 (act : List Clus) {i j : Nat} (hij : i < j) (hj : j < act.length) :
    act.Perm (clAt act i :: clAt act j :: (act.eraseIdx j).eraseIdx i) := by
  have h1 := perm_eraseIdx act j hj
  have hi' : i < (act.eraseIdx j).length := by
    rw [List.length_eraseIdx_of_lt hj]
    omega
  have h2 := perm_eraseIdx (act.eraseIdx j) i hi'
  have e : (act.eraseIdx j)[i] = act[i] := List.getElem_eraseIdx_of_lt hi' hij
  rw [e] at h2
  rw [clAt_lt (Nat.lt_trans hij hj), clAt_lt hj]
  exact h1.trans ((h2.cons _).trans (List.Perm.swap _ _ _))

theorem rowLeaves_append (n : Nat) (rows ext : List QRow)
    (hrows : ∀ t r, rows[t]? = some r → r.left < n + t ∧ r.right < n + t) :
    ∀ f i, i < n + rows.length → rowLeaves n (rows ++ ext) f i = rowLeaves n rows f i := by
  intro f
  induction f with
  | zero => intro i _; rfl
  | succ f ih =>
    intro i hi
    unfold rowLeaves
    by_cases h : i < n
    · rw [if_pos h, if_pos h]
    · rw [if_neg h, if_neg h]
      have hlt : i - n < rows.length := Nat.sub_lt_left_of_lt_add (Nat.le_of_not_lt h) hi
      rw [List.getElem?_append_left hlt, List.getElem?_eq_getElem hlt]
      obtain ⟨h1, h2⟩ := hrows (i - n) rows[i - n] (List.getElem?_eq_getElem hlt)
      have hle : n + (i - n) ≤ n + rows.length := Nat.add_le_add_left (Nat.le_of_lt hlt) n
      dsimp only
      rw [ih _ (Nat.lt_of_lt_of_le h1 hle), ih _ (Nat.lt_of_lt_of_le h2 hle)]

def rowChildren (rows : List QRow) : List Nat := rows.flatMap (fun r => [r.left, r.right])

/-- `f` is enough fuel for `rowLeaves` at cluster `i` -/
def FuelOk (n f i : Nat) : Prop := 1 ≤ f ∧ i + 2 ≤ f + n

theorem FuelOk.of_lt {n f i : Nat} (hn : 1 ≤ n) (h : i < f) : FuelOk n f i := by
  unfold FuelOk
  omega

/-- fuel that suffices at a row's cluster, less one, suffices at its children -/
theorem FuelOk.below {n f i j : Nat} (hf : FuelOk n (f + 1) j) (hj : n ≤ j) (hij : i < j) : FuelOk n f i := by
  unfold FuelOk at *
  omega

/-- invariant of `upgmaRun` after `k` steps from the `n` singletons of `upgmaInit n` -/
structure UInv (D : List (List Int)) (n k : Nat) (s : UState) : Prop where
  k_lt : k < n
  act_len : s.act.length = n - k
  rows_len : s.rows.length = k
  next_eq : s.next = n + k
  mem_ne : ∀ c ∈ s.act, c.mem ≠ []
  perm : (rowChildren s.rows ++ s.act.map (·.id)).Perm (List.range (n + k))
  last : s.act.getLast?.map (·.id) = some (n + k - 1)
  leaves : (s.act.flatMap (·.mem)).Perm (List.range n)
  rows_ok : ∀ (t : Nat) (r : QRow), s.rows[t]? = some r → r.left < n + t ∧ r.right < n + t ∧ r.left ≠ r.right
  act_leaves : ∀ c ∈ s.act, ∀ f, FuelOk n f c.id → rowLeaves n s.rows f c.id = c.mem
  rows_avg : ∀ (t : Nat) (r : QRow), s.rows[t]? = some r → 0 < r.den ∧ ∀ f1 f2, FuelOk n f1 r.left → FuelOk n f2 r.right →
    rowLeaves n s.rows f1 r.left ≠ [] ∧ rowLeaves n s.rows f2 r.right ≠ [] ∧
    r.num = sumD D (rowLeaves n s.rows f1 r.left) (rowLeaves n s.rows f2 r.right) ∧
    r.den = (rowLeaves n s.rows f1 r.left).length * (rowLeaves n s.rows f2 r.right).length

theorem UInv.id_lt {D : List (List Int)} {n k : Nat} {s : UState} (inv : UInv D n k s) :
    ∀ c ∈ s.act, c.id < n + k := by
  intro c hc
  have : c.id ∈ rowChildren s.rows ++ s.act.map (·.id) :=
    List.mem_append_right _ (List.mem_map_of_mem hc)
  exact List.mem_range.1 (inv.perm.mem_iff.1 this)

theorem UInv.ids_nodup {D : List (List Int)} {n k : Nat} {s : UState} (inv : UInv D n k s) :
    (s.act.map (·.id)).Nodup := by
  have : (rowChildren s.rows ++ s.act.map (·.id)).Nodup := inv.perm.nodup_iff.2 List.nodup_range
  exact (List.nodup_append.1 this).2.1

theorem uinv_init (D : List (List Int)) (n : Nat) (hn : 1 ≤ n) : UInv D n 0 (upgmaInit n) := by
  refine ⟨hn, by simp [upgmaInit], rfl, rfl, ?mem_ne, ?perm, ?last, ?leaves, ?rows_ok, ?act_leaves, ?rows_avg⟩
  case mem_ne =>
    intro c hc
    simp only [upgmaInit, List.mem_map] at hc
    obtain ⟨i, _, rfl⟩ := hc
    simp
  case perm =>
    simp [upgmaInit, rowChildren, Function.comp_def]
  case last =>
    simp only [upgmaInit, List.getLast?_map, List.getLast?_range, Option.map_map]
    rw [if_neg (Nat.ne_of_gt hn)]
    rfl
  case leaves =>
    simp only [upgmaInit, List.flatMap_map, List.flatMap_singleton', List.Perm.refl]
  case rows_ok =>
    intro t r h
    simp [upgmaInit] at h
  case act_leaves =>
    intro c hc f ⟨h1, _⟩
    simp only [upgmaInit, List.mem_map, List.mem_range] at hc
    obtain ⟨i, hi, rfl⟩ := hc
    obtain ⟨f', rfl⟩ := Nat.exists_eq_add_one.2 h1
    unfold rowLeaves
    rw [if_pos hi]
  case rows_avg =>
    intro t r h
    simp [upgmaInit] at h

theorem rowChildren_snoc (rows : List QRow) (r : QRow) :
    rowChildren (rows ++ [r]) = rowChildren rows ++ [r.left, r.right] := by
  simp [rowChildren]

theorem forall_getElem?_snoc {α : Type} {l : List α} {x : α} {P : Nat → α → Prop}
    (hl : ∀ t r, l[t]? = some r → P t r) (hx : P l.length x) : ∀ t r, (l ++ [x])[t]? = some r → P t r := by
  intro t r h
  rw [List.getElem?_append] at h
  split at h
  · exact hl t r h
  · rw [List.getElem?_singleton] at h
    split at h
    · cases h
      rw [show t = l.length by omega]
      exact hx
    · cases h

theorem UInv.rowLeaves_snoc {D : List (List Int)} {n k : Nat} {s : UState} (inv : UInv D n k s) (x : QRow) (f : Nat)
    {i : Nat} (hi : i < n + k) : rowLeaves n (s.rows ++ [x]) f i = rowLeaves n s.rows f i :=
  rowLeaves_append n s.rows _ (fun t r h => ⟨(inv.rows_ok t r h).1, (inv.rows_ok t r h).2.1⟩) f i (inv.rows_len ▸ hi)

/-- Replacing two active clusters `A`, `B` by their union, numbered `next`, and emitting their row preserves the invariant. -/
theorem UInv.merge_perm {D : List (List Int)} {n k : Nat} {s : UState} (inv : UInv D n k s) (hk : k + 1 < n)
    {A B : Clus} {E : List Clus} (hperm : s.act.Perm (A :: B :: E)) :
    UInv D n (k + 1) ⟨E ++ [⟨s.next, A.mem ++ B.mem⟩],
      s.rows ++ [⟨A.id, B.id, sumD D A.mem B.mem, A.mem.length * B.mem.length⟩], s.next + 1⟩ := by
  have hA : A ∈ s.act := hperm.mem_iff.2 (by simp)
  have hB : B ∈ s.act := hperm.mem_iff.2 (by simp)
  have hEsub : ∀ c ∈ E, c ∈ s.act := fun c hc => hperm.mem_iff.2 (by simp [hc])
  have hAne := inv.mem_ne A hA
  have hBne := inv.mem_ne B hB
  have hmapid : (s.act.map (·.id)).Perm (A.id :: B.id :: E.map (·.id)) := hperm.map _
  have hne : A.id ≠ B.id := by
    have := hmapid.nodup_iff.1 inv.ids_nodup
    simp only [List.nodup_cons, List.mem_cons, not_or] at this
    exact this.1.1
  have hAid := inv.id_lt A hA
  have hBid := inv.id_lt B hB
  -- `rowLeaves` of an old active cluster, over the extended rows
  have hold : ∀ (x : QRow), ∀ c ∈ s.act, ∀ f, FuelOk n f c.id → rowLeaves n (s.rows ++ [x]) f c.id = c.mem :=
    fun x c hc f hf => (inv.rowLeaves_snoc x f (inv.id_lt c hc)).trans (inv.act_leaves c hc f hf)
  refine ⟨hk, ?act_len, ?rows_len, ?next_eq, ?mem_ne, ?perm, ?last, ?leaves, ?rows_ok, ?act_leaves, ?rows_avg⟩
  case act_len =>
    have h1 : s.act.length = E.length + 2 := hperm.length_eq
    have h2 := inv.act_len
    rw [List.length_append, List.length_singleton]
    omega
  case rows_len =>
    simp only [List.length_append, List.length_cons, List.length_nil, inv.rows_len]
  case next_eq =>
    exact congrArg (· + 1) inv.next_eq
  case mem_ne =>
    simp only [List.mem_append, List.mem_singleton]
    rintro c (hc | rfl)
    · exact inv.mem_ne c (hEsub c hc)
    · simp [hAne]
  case perm =>
    show (rowChildren (s.rows ++ [_]) ++ (E ++ [_]).map Clus.id).Perm _
    have e : rowChildren s.rows ++ [A.id, B.id] ++ (E ++ [(⟨s.next, A.mem ++ B.mem⟩ : Clus)]).map (·.id) =
        (rowChildren s.rows ++ (A.id :: B.id :: E.map (·.id))) ++ [n + k] := by
      simp [inv.next_eq]
    rw [rowChildren_snoc, e, ← Nat.add_assoc n k 1, List.range_succ]
    exact List.Perm.append_right _ ((List.Perm.append_left _ hmapid.symm).trans inv.perm)
  case last =>
    simp only [List.getLast?_concat, Option.map_some, inv.next_eq]
    congr 1
  case leaves =>
    have h1 : (s.act.flatMap (·.mem)).Perm (A.mem ++ (B.mem ++ E.flatMap (·.mem))) := by
      simpa [List.flatMap_cons] using List.Perm.flatMap_right (fun c : Clus => c.mem) hperm
    simp only [List.flatMap_append, List.flatMap_cons, List.flatMap_nil, List.append_nil]
    rw [← List.append_assoc A.mem] at h1
    exact List.perm_append_comm.trans (h1.symm.trans inv.leaves)
  case rows_ok =>
    exact forall_getElem?_snoc inv.rows_ok (by rw [inv.rows_len]; exact ⟨hAid, hBid, hne⟩)
  case act_leaves =>
    simp only [List.mem_append, List.mem_singleton]
    rintro c (hc | rfl) f ⟨hf1, hf2⟩
    · exact hold _ c (hEsub c hc) f ⟨hf1, hf2⟩
    · simp only [inv.next_eq] at hf2 ⊢
      obtain ⟨f', rfl⟩ := Nat.exists_eq_add_one.2 hf1
      have hnk := Nat.le_add_right n k
      unfold rowLeaves
      rw [if_neg (Nat.not_lt.2 hnk), Nat.add_sub_cancel_left, ← inv.rows_len, List.getElem?_concat_length]
      dsimp only
      rw [hold _ A hA f' (FuelOk.below ⟨hf1, hf2⟩ hnk hAid), hold _ B hB f' (FuelOk.below ⟨hf1, hf2⟩ hnk hBid)]
  case rows_avg =>
    refine forall_getElem?_snoc (fun t r h' => ?_) ?_
    · obtain ⟨h1, h2⟩ := inv.rows_avg t r h'
      obtain ⟨hl, hr, _⟩ := inv.rows_ok t r h'
      refine ⟨h1, fun f1 f2 hf1 hf2 => ?_⟩
      have ht : t < k := inv.rows_len ▸ (List.getElem?_eq_some_iff.1 h').1
      have htk : n + t ≤ n + k := Nat.add_le_add_left (Nat.le_of_lt ht) n
      rw [inv.rowLeaves_snoc _ f1 (Nat.lt_of_lt_of_le hl htk), inv.rowLeaves_snoc _ f2 (Nat.lt_of_lt_of_le hr htk)]
      exact h2 f1 f2 hf1 hf2
    · refine ⟨Nat.mul_pos (List.length_pos_iff.2 hAne) (List.length_pos_iff.2 hBne), fun f1 f2 hf1 hf2 => ?_⟩
      dsimp only at hf1 hf2 ⊢
      rw [hold _ A hA f1 hf1, hold _ B hB f2 hf2]
      exact ⟨hAne, hBne, rfl, rfl⟩

theorem UInv.step_spec {D : List (List Int)} {n k : Nat} {s : UState} (inv : UInv D n k s) (hk : k + 1 < n) :
    ∃ i j, argminPair D s.act = some (i, j) ∧ i < j ∧ j < s.act.length ∧
      NoCloser D (memAt s.act i) (memAt s.act j) s.act ∧
      upgmaStep D s = mergeState D s i j ∧ UInv D n (k + 1) (upgmaStep D s) := by
  have hlen : 2 ≤ s.act.length := by rw [inv.act_len]; omega
  obtain ⟨i, j, h1, h2, h3, h4⟩ := argminPair_spec D s.act hlen inv.mem_ne
  refine ⟨i, j, h1, h2, h3, h4, upgmaStep_some h1, ?_⟩
  rw [upgmaStep_some h1]
  exact inv.merge_perm hk (perm_erase2 s.act h2 h3)

theorem UInv.step {D : List (List Int)} {n k : Nat} {s : UState} (inv : UInv D n k s) (hk : k + 1 < n) :
    UInv D n (k + 1) (upgmaStep D s) := by
  obtain ⟨_, _, _, _, _, _, _, h⟩ := inv.step_spec hk
  exact h

theorem uinv_run (D : List (List Int)) (n : Nat) : ∀ k, k < n → UInv D n k (upgmaRun D k (upgmaInit n)) := by
  intro k
  induction k with
  | zero => intro h; exact uinv_init D n h
  | succ k ih =>
    intro h
    rw [upgmaRun_succ]
    exact (ih (by omega)).step h

theorem upgmaStep_rows_prefix (D : List (List Int)) (s : UState) : s.rows <+: (upgmaStep D s).rows := by
  unfold upgmaStep
  split
  · exact List.prefix_rfl
  · exact List.prefix_append _ _

theorem upgmaRun_rows_prefix (D : List (List Int)) (m : Nat) (s : UState) : s.rows <+: (upgmaRun D m s).rows := by
  induction m generalizing s with
  | zero => exact List.prefix_rfl
  | succ m ih => exact (upgmaStep_rows_prefix D s).trans (ih _)

/-! ### reducibility of average linkage -/

/-- After a closest pair `A`, `B` is replaced by its union `N`, no pair is closer than `A`, `B` were: the average distance from
`N` is a mediant of the distances from `A` and from `B`. -/
theorem NoCloser.merge {D : List (List Int)} (hs : SymmD D) {act E : List Clus} {A B N : Clus}
    (hperm : act.Perm (A :: B :: E)) (hN : N.mem = A.mem ++ B.mem) (h : NoCloser D A.mem B.mem act) :
    NoCloser D A.mem B.mem (E ++ [N]) := by
  have hsymm : ∀ {X Y : Clus}, avgLt D X.mem Y.mem A.mem B.mem = false → avgLt D Y.mem X.mem A.mem B.mem = false :=
    fun h => avgLt_swap hs _ _ _ _ ▸ h
  obtain ⟨hA, hB, hE⟩ : (∀ X ∈ B :: E, avgLt D A.mem X.mem A.mem B.mem = false) ∧
      (∀ X ∈ E, avgLt D B.mem X.mem A.mem B.mem = false) ∧
      E.Pairwise (fun X Y => avgLt D X.mem Y.mem A.mem B.mem = false) := by
    simpa only [List.pairwise_cons, and_assoc] using (hperm.pairwise_iff hsymm).1 h
  refine List.pairwise_append.2 ⟨hE, List.pairwise_singleton _ _, fun X hX Y hY => ?_⟩
  have h1 := hsymm (hA X (List.mem_cons_of_mem _ hX))
  have h2 := hsymm (hB X hX)
  rw [avgLt_false_iff] at h1 h2
  rw [List.mem_singleton.1 hY, hN, avgLt_false_iff, sumD_append_right, List.length_append, Nat.mul_add, Int.natCast_add]
  exact mediant_le h1 h2

/-! ### the final linkage -/

theorem upgma_zero (D : List (List Int)) : upgma D 0 = [] := rfl

theorem uinv_final (D : List (List Int)) {n : Nat} (hn : 1 ≤ n) :
    UInv D n (n - 1) (upgmaRun D (n - 1) (upgmaInit n)) := uinv_run D n (n - 1) (by omega)

/-- a linkage with a row comes from `n ≥ 1` observations, so the invariant holds at its end -/
theorem uinv_of_row (D : List (List Int)) {n t : Nat} {r : QRow} (h : (upgma D n)[t]? = some r) :
    UInv D n (n - 1) (upgmaRun D (n - 1) (upgmaInit n)) := by
  cases n with
  | zero => simp [upgma_zero] at h
  | succ m => exact uinv_final D (by omega)

theorem upgma_length_eq (D : List (List Int)) (n : Nat) : (upgma D n).length = n - 1 := by
  cases n with
  | zero => rfl
  | succ m => exact (uinv_final D (by omega)).rows_len

theorem UInv.act_final {D : List (List Int)} {n : Nat} {s : UState} (inv : UInv D n (n - 1) s) :
    ∃ c, s.act = [c] ∧ c.id = n + (n - 1) - 1 := by
  have hk := inv.k_lt
  obtain ⟨c, hc⟩ := List.length_eq_one_iff.1 (inv.act_len.trans (show n - (n - 1) = 1 by omega))
  have hlast := inv.last
  rw [hc] at hlast
  exact ⟨c, hc, by simpa using hlast⟩

/-- row `t` of the result is row `t` of any intermediate state that already has it -/
theorem upgma_getElem?_run (D : List (List Int)) {n k t : Nat} (ht : t < k) (hk : k < n) :
    (upgma D n)[t]? = (upgmaRun D k (upgmaInit n)).rows[t]? := by
  obtain ⟨ext, he⟩ := upgmaRun_rows_prefix D (n - 1 - k) (upgmaRun D k (upgmaInit n))
  rw [← upgmaRun_add, show k + (n - 1 - k) = n - 1 by omega] at he
  unfold upgma
  have hlt : t < (upgmaRun D k (upgmaInit n)).rows.length := by
    rw [(uinv_run D n k hk).rows_len]
    exact ht
  rw [← he, List.getElem?_append_left hlt]

/-- Step `k` of the run, from the state `s` it starts in: it merges a position pair of minimal average distance, and
the row it emits is row `k` of the linkage. -/
theorem upgma_step (D : List (List Int)) {n k : Nat} (hk : k + 1 < n) {s : UState} (hs : upgmaRun D k (upgmaInit n) = s) :
    ∃ i j, argminPair D s.act = some (i, j) ∧ i < j ∧ j < s.act.length ∧
      NoCloser D (memAt s.act i) (memAt s.act j) s.act ∧
      upgmaRun D (k + 1) (upgmaInit n) = mergeState D s i j ∧ (upgma D n)[k]? = some (mergeRow D s.act i j) := by
  have inv := uinv_run D n k (Nat.lt_of_succ_lt hk)
  rw [hs] at inv
  obtain ⟨i, j, h1, h2, h3, h4, h5, -⟩ := inv.step_spec hk
  rw [← hs, ← upgmaRun_succ, hs] at h5
  refine ⟨i, j, h1, h2, h3, h4, h5, ?_⟩
  rw [upgma_getElem?_run D (Nat.lt_succ_self k) hk, h5, ← inv.rows_len]
  exact List.getElem?_concat_length

theorem linkChildren_toLink (rows : List QRow) : linkChildren (toLink rows) = rowChildren rows := by
  simp [linkChildren, toLink, rowChildren, List.flatMap_map]

theorem foldl_den_dvd (rows : List QRow) (a : Nat) :
    a ∣ rows.foldl (fun acc r => acc * r.den) a ∧ ∀ r ∈ rows, r.den ∣ rows.foldl (fun acc r => acc * r.den) a := by
  induction rows generalizing a with
  | nil => exact ⟨Nat.dvd_refl a, by simp⟩
  | cons x xs ih =>
    obtain ⟨h1, h2⟩ := ih (a * x.den)
    rw [List.foldl_cons]
    refine ⟨Nat.dvd_trans (Nat.dvd_mul_right a x.den) h1, ?_⟩
    intro r hr
    rcases List.mem_cons.1 hr with rfl | hr
    · exact Nat.dvd_trans (Nat.dvd_mul_left r.den a) h1
    · exact h2 r hr

theorem den_dvd_commonDen {rows : List QRow} {r : QRow} (h : r ∈ rows) : r.den ∣ commonDen rows :=
  (foldl_den_dvd rows 1).2 r h

/-- bringing two ordered fractions to the common denominator keeps the order -/
theorem toLink_height_le {rows : List QRow} {r1 r2 : QRow} (h1 : r1 ∈ rows) (h2 : r2 ∈ rows) (d1 : 0 < r1.den)
    (d2 : 0 < r2.den) (h : r1.num * (r2.den : Int) ≤ r2.num * (r1.den : Int)) :
    r1.num * ((commonDen rows / r1.den : Nat) : Int) ≤ r2.num * ((commonDen rows / r2.den : Nat) : Int) := by
  have v1 := Nat.mul_div_cancel' (den_dvd_commonDen h1)
  have v2 := Nat.mul_div_cancel' (den_dvd_commonDen h2)
  generalize commonDen rows / r1.den = x at v1 ⊢
  generalize commonDen rows / r2.den = y at v2 ⊢
  have s1 := Int.mul_le_mul_of_nonneg_right h (Int.natCast_nonneg (commonDen rows))
  have e1 : (r1.num * (x : Int)) * ((r1.den : Int) * r2.den) = (r1.num * r2.den) * (commonDen rows : Nat) := by
    rw [← v1, Int.natCast_mul]; ac_rfl
  have e2 : (r2.num * (y : Int)) * ((r1.den : Int) * r2.den) = (r2.num * r1.den) * (commonDen rows : Nat) := by
    rw [← v2, Int.natCast_mul]; ac_rfl
  rw [← e1, ← e2] at s1
  exact Int.le_of_mul_le_mul_right s1 (Int.mul_pos (Int.natCast_pos.2 d1) (Int.natCast_pos.2 d2))

theorem toLink_getElem? (rows : List QRow) (t : Nat) :
    (toLink rows)[t]? = rows[t]?.map (fun r => ⟨r.left, r.right, r.num * ((commonDen rows / r.den : Nat) : Int)⟩) := by
  unfold toLink
  rw [List.getElem?_map]

/-! ### executable checks of `SymmD` / `NonnegD` for a concrete matrix -/

theorem dAt_eq_zero_of_row (D : List (List Int)) {a b : Nat} (h : D.length ≤ a) : dAt D a b = 0 := by
  unfold dAt
  simp only [List.getD_eq_getElem?_getD]
  rw [List.getElem?_eq_none h]
  rfl

theorem dAt_eq_zero_of_col (D : List (List Int)) {a b : Nat} (h : ∀ row ∈ D, row.length ≤ b) : dAt D a b = 0 := by
  unfold dAt
  by_cases ha : a < D.length
  · simp only [List.getD_eq_getElem?_getD]
    rw [List.getElem?_eq_getElem ha]
    simp only [Option.getD_some]
    rw [List.getElem?_eq_none (h _ (List.getElem_mem ha))]
    rfl
  · exact dAt_eq_zero_of_row D (by omega)

def fitsD (D : List (List Int)) (m : Nat) : Bool :=
  decide (D.length ≤ m) && D.all (fun row => decide (row.length ≤ m))

/-- `D` fits in an `m × m` square, inside which `P D[a][b] D[b][a]` holds everywhere -/
def checkD (P : Int → Int → Bool) (D : List (List Int)) (m : Nat) : Bool :=
  fitsD D m && (List.range m).all fun a => (List.range m).all fun b => P (dAt D a b) (dAt D b a)

theorem fitsD_spec {D : List (List Int)} {m : Nat} (h : fitsD D m = true) :
    ∀ a b, (m ≤ a ∨ m ≤ b) → dAt D a b = 0 := by
  unfold fitsD at h
  simp only [Bool.and_eq_true, decide_eq_true_eq, List.all_eq_true] at h
  intro a b hab
  rcases hab with hab | hab
  · exact dAt_eq_zero_of_row D (by omega)
  · exact dAt_eq_zero_of_col D (fun row hrow => by have := h.2 row hrow; omega)

/-- outside the square both entries are `0` -/
theorem of_checkD {P : Int → Int → Bool} (h0 : P 0 0 = true) {D : List (List Int)} {m : Nat}
    (h : checkD P D m = true) (a b : Nat) : P (dAt D a b) (dAt D b a) = true := by
  unfold checkD at h
  simp only [Bool.and_eq_true, List.all_eq_true, List.mem_range] at h
  by_cases hab : a < m ∧ b < m
  · exact h.2 a hab.1 b hab.2
  · rw [fitsD_spec h.1 a b (by omega), fitsD_spec h.1 b a (by omega)]
    exact h0

theorem symmD_of_check {D : List (List Int)} {m : Nat} (h : checkD (· == ·) D m = true) : SymmD D :=
  fun a b => beq_iff_eq.1 (of_checkD rfl h a b)

theorem nonnegD_of_check {D : List (List Int)} {m : Nat} (h : checkD (fun x _ => decide (0 ≤ x)) D m = true) :
    NonnegD D :=
  fun a b => of_decide_eq_true (of_checkD rfl h a b)

/-! ### replay: an accepted merge sequence against the model's own -/

/-- what an accepted replay step did -/
theorem replayStep_eq_some {D : List (List Int)} {s s' : UState} {l r : Nat} (h : replayStep D s l r = some s') :
    ∃ i j, findPos s.act l = some i ∧ findPos s.act r = some j ∧ i ≠ j ∧
      (∀ p ∈ idxPairs s.act.length,
        avgLt D (memAt s.act p.1) (memAt s.act p.2) (memAt s.act i) (memAt s.act j) = false) ∧
      s' = { act := (s.act.eraseIdx (max i j)).eraseIdx (min i j) ++ [⟨s.next, memAt s.act i ++ memAt s.act j⟩],
             rows := s.rows ++ [⟨l, r, sumD D (memAt s.act i) (memAt s.act j),
               (memAt s.act i).length * (memAt s.act j).length⟩],
             next := s.next + 1 } := by
  unfold replayStep at h
  split at h
  · next i j hi hj =>
    split at h
    · cases h
    · next hne =>
      dsimp only at h
      split at h
      · cases h
      · next hany =>
        refine ⟨i, j, hi, hj, by simpa using hne, fun p hp => ?_, (Option.some.inj h).symm⟩
        simp only [List.any_eq_true, not_exists, not_and, Bool.not_eq_true] at hany
        exact hany p hp
  · cases h

theorem findPos_spec {act : List Clus} {l i : Nat} (h : findPos act l = some i) :
    i < act.length ∧ (clAt act i).id = l := by
  unfold findPos at h
  obtain ⟨hi, hp, _⟩ := List.findIdx?_eq_some_iff_getElem.1 h
  refine ⟨hi, ?_⟩
  rw [clAt_lt hi]
  simpa using hp

/-- a row up to the order in which its two children are named -/
def normRow (m : QRow) : Nat × Nat × Int × Nat := (min m.left m.right, max m.left m.right, m.num, m.den)

theorem normRow_swap (a b : Nat) (x : Int) (d : Nat) : normRow ⟨a, b, x, d⟩ = normRow ⟨b, a, x, d⟩ := by
  unfold normRow
  simp only [Nat.min_comm a b, Nat.max_comm a b]

structure ClusRel (a b : Clus) : Prop where
  id_eq : a.id = b.id
  mem_perm : a.mem.Perm b.mem

/-- the replayed state and the model state agree up to the order of members inside each cluster and
the order of the two children in each row -/
structure RelS (sr su : UState) : Prop where
  len : sr.act.length = su.act.length
  next : sr.next = su.next
  act : ∀ p, ClusRel (clAt sr.act p) (clAt su.act p)
  rows : sr.rows.map normRow = su.rows.map normRow

theorem RelS.refl (s : UState) : RelS s s := ⟨rfl, rfl, fun _ => ⟨rfl, List.Perm.refl _⟩, rfl⟩

/-- a relation between the entries of two lists, position by position (absent entries included), survives erasing
the same position of both -/
theorem rel_eraseIdx {α : Type} (Q : Option α → Option α → Prop) {l l' : List α} (h : ∀ p : Nat, Q l[p]? l'[p]?) (k p : Nat) :
    Q (l.eraseIdx k)[p]? (l'.eraseIdx k)[p]? := by
  rw [List.getElem?_eraseIdx, List.getElem?_eraseIdx]
  split <;> exact h _

/-- such a relation also survives appending related entries to lists of equal length -/
theorem rel_snoc {α : Type} (Q : Option α → Option α → Prop) {l l' : List α} (hlen : l.length = l'.length)
    (h : ∀ p : Nat, Q l[p]? l'[p]?) {x y : α} (hxy : Q (some x) (some y)) (hnone : Q none none) (p : Nat) :
    Q (l ++ [x])[p]? (l' ++ [y])[p]? := by
  rw [List.getElem?_append, List.getElem?_append, hlen]
  split
  · exact h p
  · rw [List.getElem?_singleton, List.getElem?_singleton]
    split
    · exact hxy
    · exact hnone

theorem clusRel_merge {ar au : List Clus} (hlen : ar.length = au.length)
    (h : ∀ p, ClusRel (clAt ar p) (clAt au p)) (i j : Nat) {nr nu : Clus} (hn : ClusRel nr nu) (p : Nat) :
    ClusRel (clAt ((ar.eraseIdx j).eraseIdx i ++ [nr]) p) (clAt ((au.eraseIdx j).eraseIdx i ++ [nu]) p) := by
  simp only [clAt, List.getD_eq_getElem?_getD] at h ⊢
  let Q : Option Clus → Option Clus → Prop := fun a b => ClusRel (a.getD ⟨0, []⟩) (b.getD ⟨0, []⟩)
  exact rel_snoc Q (by simp only [List.length_eraseIdx, hlen]) (rel_eraseIdx Q (rel_eraseIdx Q h j) i) hn
    ⟨rfl, List.Perm.refl _⟩ p

theorem min_max_of_pair {a b i j : Nat} (hij : i < j) (h : (a = i ∧ b = j) ∨ (a = j ∧ b = i)) :
    min a b = i ∧ max a b = j := by
  omega

/-- one accepted replay step on related states, when the model's step has no tie, is the model's step -/
theorem replay_step_rel {D : List (List Int)} (hs : SymmD D) {n k : Nat} {sr su sr' : UState} {l r : Nat}
    (inv : UInv D n k su) (hk : k + 1 < n) (rel : RelS sr su) (htf : stepTieFree D su.act = true)
    (h : replayStep D sr l r = some sr') : RelS sr' (upgmaStep D su) := by
  obtain ⟨i, j, harg, hij, hj, _, hstep, _⟩ := inv.step_spec hk
  obtain ⟨ir, jr, hir, hjr, hne, hminr, rfl⟩ := replayStep_eq_some h
  obtain ⟨hir1, hir2⟩ := findPos_spec hir
  obtain ⟨hjr1, hjr2⟩ := findPos_spec hjr
  have hlen := rel.len
  have hmemr : ∀ p, (memAt sr.act p).Perm (memAt su.act p) := fun p => (rel.act p).mem_perm
  -- the replayed pair is the model's pair
  have hpair : (ir = i ∧ jr = j) ∨ (ir = j ∧ jr = i) := by
    rcases stepTieFree_unordered hs htf harg hne (hlen ▸ hir1) (hlen ▸ hjr1) with e | e | hlt
    · exact Or.inl e
    · exact Or.inr e
    · have h0 := hminr (i, j) (by rw [hlen]; exact mem_idxPairs.2 ⟨hij, hj⟩)
      rw [avgLt_congr D (hmemr i) (hmemr j) (hmemr ir) (hmemr jr), hlt] at h0
      exact absurd h0 (by simp)
  have hmm := min_max_of_pair hij hpair
  rw [hstep, hmm.1, hmm.2]
  refine ⟨?_, congrArg (· + 1) rel.next, clusRel_merge hlen rel.act i j ⟨rel.next, ?_⟩, ?_⟩
  · show (_ ++ [_]).length = (_ ++ [_]).length
    simp only [List.length_append, List.length_eraseIdx, List.length_singleton, hlen]
  · show (memAt sr.act ir ++ memAt sr.act jr).Perm (memAt su.act i ++ memAt su.act j)
    rcases hpair with ⟨rfl, rfl⟩ | ⟨rfl, rfl⟩
    · exact (hmemr _).append (hmemr _)
    · exact List.perm_append_comm.trans ((hmemr _).append (hmemr _))
  · show (sr.rows ++ [_]).map normRow = (su.rows ++ [mergeRow D su.act i j]).map normRow
    rw [List.map_append, List.map_append, rel.rows, List.map_singleton, List.map_singleton, ← hir2, ← hjr2]
    congr 2
    unfold mergeRow
    rw [← memAt_eq, ← memAt_eq]
    rcases hpair with ⟨rfl, rfl⟩ | ⟨rfl, rfl⟩
    · rw [(rel.act _).id_eq, (rel.act _).id_eq, sumD_perm D (hmemr _) (hmemr _), (hmemr ir).length_eq, (hmemr jr).length_eq]
    · rw [normRow_swap, (rel.act _).id_eq, (rel.act _).id_eq, sumD_symm hs, sumD_perm D (hmemr _) (hmemr _),
        (hmemr ir).length_eq, (hmemr jr).length_eq, Nat.mul_comm]

theorem replay_run_rel {D : List (List Int)} (hs : SymmD D) {n : Nat} (ms : List (Nat × Nat)) :
    ∀ (k : Nat) (sr su s : UState), UInv D n k su → RelS sr su → ms.length + k + 1 = n →
      runTieFree D ms.length su = true → replayRun D ms sr = some s → RelS s (upgmaRun D ms.length su) := by
  induction ms with
  | nil =>
    intro k sr su s _ rel _ _ h
    cases h
    exact rel
  | cons m rest ih =>
    intro k sr su s inv rel hlen htf h
    obtain ⟨sr', hst, h⟩ := Option.bind_eq_some_iff.1 h
    obtain ⟨htf1, htf2⟩ := Bool.and_eq_true_iff.1 htf
    rw [List.length_cons] at hlen
    have hk : k + 1 < n := by omega
    exact ih (k + 1) sr' (upgmaStep D su) s (inv.step hk) (replay_step_rel hs inv hk rel htf1 hst) (by omega) htf2 h

end GambitV
