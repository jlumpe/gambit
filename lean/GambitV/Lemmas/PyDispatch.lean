import GambitV.Lemmas.TiePyGetitem

/-!
What `AdvancedIndexingMixin.__getitem__` (gambit/util/indexing.py) does, as a function (`Indexed.dispatch`) of the index expression and of
the methods of the collection it calls; which form of index (`classify`) a dynamically typed index expression denotes; and that
`dispatch` of methods that select what a model of indexing selects (`Selects`) is that model on the classified index.  Each translation
of the method is tied to `dispatch` of its own methods in its own module; nothing here mentions a generated term.
-/
namespace GambitV.Tie.Py
open GambitV GambitV.Py

/-- what a one-dimensional integer / Boolean array selects; any other array is refused -/
def classifyNd (a : Py.NdArr) : Index :=
  if a.ndim ≠ 1 then .badArray
  else if a.kind = 'b' then .mask a.bools
  else if a.kind = 'i' ∨ a.kind = 'u' then .ints a.ints
  else .badArray

/-- the form of index (`Model/Indexing.lean`) a dynamically typed index expression denotes -/
def classify : Py.IdxVal → Index
  | .int i => .int i
  | .slice a b c =>
    if a == some none || b == some none || c == some none then .sliceBadType
    else .slice (Py.IdxVal.fieldInt? a) (Py.IdxVal.fieldInt? b) (Py.IdxVal.fieldInt? c)
  | .nd a => classifyNd a
  | .sized n sp asarr =>
    if n = 0 ∧ sp = false then .ints []
    else match asarr with
      | none => .badArray
      | some a => classifyNd a
  | .unsized => .unsized

def excOf : IdxErr → Py.Exc
  | .indexError => .IndexError | .typeError => .TypeError | .valueError => .ValueError

/-- what NumPy guarantees of the description: `len` of a one-dimensional Boolean array is the number of its entries -/
def ndWF (a : Py.NdArr) : Prop := a.ndim = 1 → a.kind = 'b' → a.len0 = a.bools.length
def idxWF : Py.IdxVal → Prop
  | .nd a => ndWF a
  | .sized _ _ (some a) => ndWF a
  | _ => True

/-- the index is an `np.ndarray`, or a sized object (not the empty non-special one) that `np.asarray` turns into the array `a` -/
def IsArr (idx : IdxVal) (a : NdArr) : Prop :=
  idx = .nd a ∨ ∃ n sp, idx = .sized n sp (some a) ∧ ¬ (((n : Nat) : Int) = 0 ∧ sp = false)

/-- the tests `__getitem__` makes of an array, in its order: not one-dimensional; Boolean; signed or unsigned integers; any other kind -/
theorem ndArr_cases (a : Py.NdArr) :
    a.ndim ≠ 1 ∨ (a.ndim = 1 ∧ a.kind = 'b') ∨ (a.ndim = 1 ∧ a.kind ≠ 'b' ∧ (a.kind = 'i' ∨ a.kind = 'u')) ∨
      (a.ndim = 1 ∧ a.kind ≠ 'b' ∧ ¬ (a.kind = 'i' ∨ a.kind = 'u')) := by
  by_cases hnd : a.ndim = 1
  · by_cases hk : a.kind = 'b'
    · exact Or.inr (Or.inl ⟨hnd, hk⟩)
    · by_cases hiu : a.kind = 'i' ∨ a.kind = 'u'
      · exact Or.inr (Or.inr (Or.inl ⟨hnd, hk, hiu⟩))
      · exact Or.inr (Or.inr (Or.inr ⟨hnd, hk, hiu⟩))
  · exact Or.inl hnd

theorem classifyNd_ndim {a : Py.NdArr} (hnd : a.ndim ≠ 1) : classifyNd a = .badArray := if_pos hnd

theorem classifyNd_bool {a : Py.NdArr} (hnd : a.ndim = 1) (hk : a.kind = 'b') : classifyNd a = .mask a.bools := by
  rw [classifyNd, if_neg (fun h => h hnd), if_pos hk]

theorem classifyNd_ints {a : Py.NdArr} (hnd : a.ndim = 1) (hk : a.kind ≠ 'b') (hiu : a.kind = 'i' ∨ a.kind = 'u') :
    classifyNd a = .ints a.ints := by
  rw [classifyNd, if_neg (fun h => h hnd), if_neg hk, if_pos hiu]

theorem classifyNd_kind {a : Py.NdArr} (hnd : a.ndim = 1) (hk : a.kind ≠ 'b') (hiu : ¬ (a.kind = 'i' ∨ a.kind = 'u')) :
    classifyNd a = .badArray := by
  rw [classifyNd, if_neg (fun h => h hnd), if_neg hk, if_neg hiu]

end GambitV.Tie.Py

namespace GambitV.Py

/-- a check of the model as the outcome of the translated check (or of a loop of them): `f` of what it accepts, `IndexError` if it fails -/
def chkRes {ε β γ : Type} (f : β → γ) : Except ε β → Res γ
  | .ok b => .ok (f b)
  | .error _ => .raised .IndexError

/-- the methods of the collection that `__getitem__` calls: `len(self)`, `_check_index`, `_getitem_int`, `_getitem_slice`,
`_getitem_bool_array`, `_getitem_int_array`, and how a single item / a new collection is returned -/
structure Indexed (α β γ : Type) where
  len : Int
  check : Int → Res Int
  getInt : Int → Res α
  getSlice : Option Int × Option Int × Option Int → Res β
  getBool : List Bool → Res β
  getInts : List Int → Res β
  one : α → γ
  many : β → γ

variable {α β γ : Type}

/-- a one-dimensional Boolean or integer array -/
def Indexed.dispatchNd (c : Indexed α β γ) (a : NdArr) : Res γ :=
  if (a.ndim : Int) ≠ 1 then .raised .IndexError
  else if a.kind = 'b' then
    if (a.len0 : Int) ≠ c.len then .raised .IndexError else (c.getBool a.bools).map c.many
  else if a.kind = 'i' ∨ a.kind = 'u' then
    (checkAll c.check a.ints).bind fun _ => (c.getInts (TieGet.finalInts c.len a)).map c.many
  else .raised .IndexError

theorem Indexed.dispatchNd_ndim (c : Indexed α β γ) {a : NdArr} (hnd : a.ndim ≠ 1) : c.dispatchNd a = .raised .IndexError :=
  if_pos (fun h => hnd (Int.ofNat.inj h))

theorem Indexed.dispatchNd_bool (c : Indexed α β γ) {a : NdArr} (hnd : a.ndim = 1) (hk : a.kind = 'b') :
    c.dispatchNd a = if (a.len0 : Int) ≠ c.len then .raised .IndexError else (c.getBool a.bools).map c.many := by
  rw [dispatchNd, if_neg (fun h => h (congrArg Int.ofNat hnd)), if_pos hk]

theorem Indexed.dispatchNd_ints (c : Indexed α β γ) {a : NdArr} (hnd : a.ndim = 1) (hk : a.kind ≠ 'b')
    (hiu : a.kind = 'i' ∨ a.kind = 'u') :
    c.dispatchNd a = (checkAll c.check a.ints).bind fun _ => (c.getInts (TieGet.finalInts c.len a)).map c.many := by
  rw [dispatchNd, if_neg (fun h => h (congrArg Int.ofNat hnd)), if_neg hk, if_pos hiu]

theorem Indexed.dispatchNd_kind (c : Indexed α β γ) {a : NdArr} (hnd : a.ndim = 1) (hk : a.kind ≠ 'b')
    (hiu : ¬ (a.kind = 'i' ∨ a.kind = 'u')) : c.dispatchNd a = .raised .IndexError := by
  rw [dispatchNd, if_neg (fun h => h (congrArg Int.ofNat hnd)), if_neg hk, if_neg hiu]

/-- the part of `__getitem__` after the classification, where `index` is meant to be an `np.ndarray` -/
def Indexed.dispatchArr (c : Indexed α β γ) (v : IdxVal) : Res γ :=
  if v.isNd then c.dispatchNd v.arr else .raised .AttributeError

theorem Indexed.dispatchArr_nd (c : Indexed α β γ) (a : NdArr) : c.dispatchArr (.nd a) = c.dispatchNd a := rfl

theorem Indexed.dispatchArr_not_nd (c : Indexed α β γ) {v : IdxVal} (h : v.isNd = false) : c.dispatchArr v = .raised .AttributeError := by
  rw [dispatchArr, h]
  rfl

/-- the empty integer array that stands for an empty sequence: one-dimensional, of kind `'i'`, no entry to check, none negative -/
theorem Indexed.dispatchArr_emptyInt (c : Indexed α β γ) : c.dispatchArr IdxVal.emptyInt = (c.getInts []).map c.many := rfl

/-- on a slice the fields are tested twice, as in the source: the type check of the method, then the translator's guard in front of
the conversion of the fields -/
def Indexed.dispatch (c : Indexed α β γ) : IdxVal → Res γ
  | .int i => (c.check i).bind fun j => (c.getInt j).map c.one
  | .slice f g h =>
    if [f, g, h].any (fun x => x.isSome && !IdxVal.fieldIsInt x) then .raised .TypeError
    else if h = some (some 0) then .raised .ValueError
    else if (f == some none || g == some none || h == some none) then .raised .TypeError
    else (c.getSlice (IdxVal.fieldInt? f, IdxVal.fieldInt? g, IdxVal.fieldInt? h)).map c.many
  | .nd a => c.dispatchNd a
  | .sized n sp asarr =>
    if (n : Int) = 0 ∧ sp = false then (c.getInts []).map c.many
    else match asarr with
      | none => .raised .IndexError
      | some a => c.dispatchNd a
  | .unsized => .raised .TypeError

theorem IdxVal.eq_nd_of_isNd {v : IdxVal} (h : v.isNd = true) : ∃ a, v = .nd a := by
  cases v with
  | nd a => exact ⟨a, rfl⟩
  | _ => cases h

theorem IdxVal.arr_nd (a : NdArr) : (IdxVal.nd a).arr = a := rfl

/-- the four ways through `astype` / `np.add(…, where=…)` hand `finalInts` to `_getitem_int_array` -/
theorem finalInts_paths {δ : Type} (n : Int) (a : NdArr) (g : List Int → Res β) (k : β → Res δ) :
    (if a.kind = 'u' then
      if (IdxVal.nd a).astypeIntp.ltZero.any id = true then
        (g ((IdxVal.nd a).astypeIntp.astypeIntp.addWhere n (IdxVal.nd a).astypeIntp.ltZero).ints).bind k
      else (g (IdxVal.nd a).astypeIntp.ints).bind k
    else
      if (IdxVal.nd a).ltZero.any id = true then (g ((IdxVal.nd a).astypeIntp.addWhere n (IdxVal.nd a).ltZero).ints).bind k
      else (g a.ints).bind k) = (g (TieGet.finalInts n a)).bind k := by
  unfold TieGet.finalInts
  by_cases hu : a.kind = 'u'
  · simp only [if_pos hu]
    split <;> rfl
  · simp only [if_neg hu]
    split <;> rfl

theorem isSome_and_not_fieldIsInt (x : Option (Option Int)) : (x.isSome && !IdxVal.fieldIsInt x) = (x == some none) := by
  rcases x with _ | _ | x <;> rfl

theorem fieldInt?_eq_zero (s : Option (Option Int)) : (s == some (some 0)) = decide (IdxVal.fieldInt? s = some 0) := by
  rcases s with _ | _ | s
  · rfl
  · rfl
  · by_cases h : s = 0 <;> simp [IdxVal.fieldInt?, h]

theorem Indexed.dispatch_slice (c : Indexed α β γ) (f g h : Option (Option Int)) :
    c.dispatch (.slice f g h) =
      if (f == some none || g == some none || h == some none) then .raised .TypeError
      else if h == some (some 0) then .raised .ValueError
      else (c.getSlice (IdxVal.fieldInt? f, IdxVal.fieldInt? g, IdxVal.fieldInt? h)).map c.many := by
  simp only [Indexed.dispatch, List.any_cons, List.any_nil, Bool.or_false, isSome_and_not_fieldIsInt, Bool.or_assoc, beq_iff_eq]
  split
  · rfl
  · rfl

end GambitV.Py

namespace GambitV.Tie.Py
open GambitV GambitV.Py GambitV.TieGet

section kinds
variable {α β γ : Type} (c : Indexed α β γ) {idx : IdxVal} {a : NdArr}

theorem dispatch_int_ok {i j : Int} {v : α} (hc : c.check i = .ok j) (hv : c.getInt j = .ok v) :
    c.dispatch (.int i) = .ok (c.one v) := by
  show (c.check i).bind _ = _
  rw [hc, Res.bind_ok, hv, Res.map_ok]

theorem dispatch_int_raised {i : Int} {e : Exc} (hc : c.check i = .raised e) : c.dispatch (.int i) = .raised e := by
  show (c.check i).bind _ = _
  rw [hc, Res.bind_raised]

theorem dispatch_isArr (h : IsArr idx a) : c.dispatch idx = c.dispatchNd a := by
  rcases h with rfl | ⟨n, sp, rfl, hne⟩
  · rfl
  · exact if_neg hne

theorem dispatch_arr_ints_bad (h : IsArr idx a) (hnd : a.ndim = 1) (hb : a.kind ≠ 'b') (hiu : a.kind = 'i' ∨ a.kind = 'u') {e : Exc}
    (hn : checkAll c.check a.ints = .raised e) : c.dispatch idx = .raised e := by
  rw [dispatch_isArr c h, c.dispatchNd_ints hnd hb hiu, hn, Res.bind_raised]

theorem dispatch_arr_ints (h : IsArr idx a) (hnd : a.ndim = 1) (hb : a.kind ≠ 'b') (hiu : a.kind = 'i' ∨ a.kind = 'u')
    (hn : checkAll c.check a.ints = .ok ()) {r : β} (hr : c.getInts (finalInts c.len a) = .ok r) :
    c.dispatch idx = .ok (c.many r) := by
  rw [dispatch_isArr c h, c.dispatchNd_ints hnd hb hiu, hn, Res.bind_ok, hr, Res.map_ok]

end kinds

/-- what the two models of `Model/Indexing.lean` (`getItemList`, `getItemConcat`) have in common: the dispatch over the classified
index, given the length, what a position and a list of positions select, and the outcome of a slice with a non-zero step -/
structure IndexSpec (τ : Type) where
  n : Nat
  one : Nat → τ
  many : List Nat → τ
  slice : Option Int → Option Int → Option Int → Except IdxErr τ

def IndexSpec.get {τ : Type} (m : IndexSpec τ) : Index → Except IdxErr τ
  | .int i => (checkIndex m.n i).map m.one
  | .sliceBadType => .error .typeError
  | .slice a b s => if s = some 0 then .error .valueError else m.slice a b s
  | .ints l => (normIndices m.n l).map m.many
  | .mask k => if k.length ≠ m.n then .error .indexError else .ok (m.many (flatnonzero k))
  | .badArray => .error .indexError
  | .unsized => .error .typeError

section
variable {τ : Type} (m : IndexSpec τ)
theorem IndexSpec.get_int (i : Int) : m.get (.int i) = (checkIndex m.n i).map m.one := rfl
theorem IndexSpec.get_slice (a b s : Option Int) :
    m.get (.slice a b s) = if s = some 0 then .error .valueError else m.slice a b s := rfl
theorem IndexSpec.get_ints (l : List Int) : m.get (.ints l) = (normIndices m.n l).map m.many := rfl
theorem IndexSpec.get_mask (k : List Bool) :
    m.get (.mask k) = if k.length ≠ m.n then .error .indexError else .ok (m.many (flatnonzero k)) := rfl
end

def listSpec (sigs : List (List Nat)) : IndexSpec (Sel (List Nat)) where
  n := sigs.length
  one j := .one (sigs.getD j [])
  many js := .many (js.map (fun j => sigs.getD j []))
  slice a b s := getItemList sigs (.slice a b s)

def concatSpec (sigs : List (List Nat)) : IndexSpec CSel where
  n := sigs.length
  one j := .one ((Concat.ofList sigs).get j)
  many js := .many ((Concat.ofList sigs).gather js)
  slice a b s := getItemConcat (Concat.ofList sigs) (.slice a b s)

theorem getItemList_eq_get (sigs : List (List Nat)) (ix : Index) : getItemList sigs ix = (listSpec sigs).get ix := by
  cases ix with
  | int i =>
    show (checkIndex sigs.length i >>= _) = (checkIndex sigs.length i).map _
    cases checkIndex sigs.length i <;> rfl
  | ints l =>
    show (normIndices sigs.length l >>= _) = (normIndices sigs.length l).map _
    cases normIndices sigs.length l <;> rfl
  | slice a b s =>
    rw [IndexSpec.get_slice]
    split
    · simp only [getItemList, if_pos, *]
    · rfl
  | _ => rfl

theorem getItemConcat_eq_get (sigs : List (List Nat)) (ix : Index) :
    getItemConcat (Concat.ofList sigs) ix = (concatSpec sigs).get ix := by
  cases ix with
  | int i =>
    show (checkIndex (Concat.ofList sigs).len i >>= _) = (checkIndex sigs.length i).map _
    rw [ofList_len]
    cases checkIndex sigs.length i <;> rfl
  | ints l =>
    show (normIndices (Concat.ofList sigs).len l >>= _) = (normIndices sigs.length l).map _
    rw [ofList_len]
    cases normIndices sigs.length l <;> rfl
  | mask k =>
    show (if k.length ≠ (Concat.ofList sigs).len then _ else _) = _
    rw [ofList_len]
    rfl
  | slice a b s =>
    rw [IndexSpec.get_slice]
    split
    · simp only [getItemConcat, if_pos, *]
    · rfl
  | _ => rfl

section model
variable {α β γ τ : Type}

/-- the methods of `c` select what the model selects, read through `R` -/
structure Selects (c : Indexed α β γ) (m : IndexSpec τ) (R : γ → τ → Prop) : Prop where
  len : c.len = (m.n : Int)
  check : ∀ i, c.check i = chkRes Int.ofNat (checkIndex m.n i)
  getInt : ∀ j : Nat, j < m.n → ∃ v, c.getInt (j : Int) = .ok v ∧ R (c.one v) (m.one j)
  getInts : ∀ js : List Nat, (∀ j ∈ js, j < m.n) →
    ∃ r, c.getInts (js.map (fun (j : Nat) => (j : Int))) = .ok r ∧ R (c.many r) (m.many js)
  getSlice : ∀ a b s : Option Int, s ≠ some 0 → ∃ r t, c.getSlice (a, b, s) = .ok r ∧ m.slice a b s = .ok t ∧ R (c.many r) t
  getBool : ∀ k : List Bool, k.length = m.n → ∃ r, c.getBool k = .ok r ∧ R (c.many r) (m.many (flatnonzero k))

/-- what `dispatch` returns against an outcome of the model -/
def Follows (c : Indexed α β γ) (R : γ → τ → Prop) (idx : IdxVal) : Except IdxErr τ → Prop
  | .ok t => ∃ r, c.dispatch idx = .ok r ∧ R r t
  | .error e => c.dispatch idx = .raised (excOf e)

variable {c : Indexed α β γ} {m : IndexSpec τ} {R : γ → τ → Prop} {idx : IdxVal}

theorem Selects.checkAll_eq (h : Selects c m R) (l : List Int) : Py.checkAll c.check l = chkRes (fun _ => ()) (normIndices m.n l) := by
  unfold normIndices
  induction l with
  | nil => rfl
  | cons x l ih =>
    rw [Py.checkAll, h.check, List.mapM_cons]
    cases checkIndex m.n x with
    | error e => rfl
    | ok j =>
      show Py.checkAll _ l = _
      rw [ih]
      cases l.mapM (checkIndex m.n) <;> rfl

theorem Selects.nd (h : Selects c m R) {a : NdArr} (ha : IsArr idx a) (hwf : ∀ k, classifyNd a = .mask k → ndWF a)
    (hlen : ∀ l, classifyNd a = .ints l → m.n < 2 ^ 63) :
    Follows c R idx (m.get (classifyNd a)) := by
  have hd := dispatch_isArr c ha
  rcases ndArr_cases a with hnd | ⟨hnd, hk⟩ | ⟨hnd, hk, hiu⟩ | ⟨hnd, hk, hiu⟩
  · rw [classifyNd_ndim hnd]
    exact hd.trans (c.dispatchNd_ndim hnd)
  · have hl0 := hwf a.bools (classifyNd_bool hnd hk) hnd hk
    rw [c.dispatchNd_bool hnd hk, h.len] at hd
    rw [classifyNd_bool hnd hk, IndexSpec.get_mask]
    by_cases hl : a.bools.length ≠ m.n
    · rw [if_pos hl]
      rw [if_pos (by omega)] at hd
      exact hd
    · rw [if_neg hl]
      obtain ⟨r, hr, hR⟩ := h.getBool a.bools (by omega)
      rw [if_neg (by omega), hr] at hd
      exact ⟨_, hd, hR⟩
  · have hlen := hlen a.ints (classifyNd_ints hnd hk hiu)
    rw [c.dispatchNd_ints hnd hk hiu, h.checkAll_eq, h.len] at hd
    rw [classifyNd_ints hnd hk hiu, IndexSpec.get_ints]
    cases hn : normIndices m.n a.ints with
    | error e =>
      rw [hn] at hd
      rw [normIndices_error_kind _ _ e hn]
      exact hd
    | ok js =>
      obtain ⟨r, hr, hR⟩ := h.getInts js (normIndices_lt _ _ js hn)
      rw [hn, finalInts_eq m.n a hlen js hn, hr] at hd
      exact ⟨_, hd, hR⟩
  · rw [classifyNd_kind hnd hk hiu]
    exact hd.trans (c.dispatchNd_kind hnd hk hiu)

theorem Selects.dispatch (h : Selects c m R) (idx : IdxVal) (hwf : ∀ k, classify idx = .mask k → idxWF idx)
    (hlen : ∀ l, classify idx = .ints l → m.n < 2 ^ 63) :
    Follows c R idx (m.get (classify idx)) := by
  cases idx with
  | int i =>
    rw [classify, IndexSpec.get_int]
    have hc := h.check i
    cases hj : checkIndex m.n i with
    | error e =>
      rw [hj] at hc
      rw [(checkIndex_error _ _ e hj).1]
      exact dispatch_int_raised c hc
    | ok j =>
      rw [hj] at hc
      obtain ⟨v, hv, hR⟩ := h.getInt j (checkIndex_ok_lt hj)
      exact ⟨_, dispatch_int_ok c hc hv, hR⟩
  | slice f g s =>
    have hd := c.dispatch_slice f g s
    simp only [fieldInt?_eq_zero, decide_eq_true_eq] at hd
    simp only [classify]
    by_cases hbad : (f == some none || g == some none || s == some none) = true
    · rw [if_pos hbad] at hd ⊢
      exact hd
    · rw [if_neg hbad] at hd ⊢
      rw [IndexSpec.get_slice]
      by_cases hz : IdxVal.fieldInt? s = some 0
      · rw [if_pos hz] at hd ⊢
        exact hd
      · rw [if_neg hz] at hd ⊢
        obtain ⟨r, t, hr, ht, hR⟩ := h.getSlice _ _ _ hz
        rw [hr] at hd
        rw [ht]
        exact ⟨_, hd, hR⟩
  | nd a => exact h.nd (Or.inl rfl) hwf hlen
  | sized n sp asarr =>
    simp only [classify]
    by_cases he : n = 0 ∧ sp = false
    · rw [if_pos he]
      obtain ⟨rfl, rfl⟩ := he
      obtain ⟨r, hr, hR⟩ := h.getInts [] (fun j hj => by cases hj)
      exact ⟨_, (congrArg (Res.map c.many) hr).trans (Res.map_ok _ r), hR⟩
    · rw [if_neg he]
      have he' : ¬ (((n : Nat) : Int) = 0 ∧ sp = false) := fun h => he ⟨by omega, h.2⟩
      cases asarr with
      | none => exact if_neg he'
      | some a =>
        have hcl : classify (.sized n sp (some a)) = classifyNd a := by simp only [classify]; rw [if_neg he]
        exact h.nd (Or.inr ⟨n, sp, rfl, he'⟩) (fun k hk => hwf k (hcl.trans hk)) (fun l hl => hlen l (hcl.trans hl))
  | unsized => exact rfl

end model

end GambitV.Tie.Py
