import GambitV.Gen.PyHdf5
import GambitV.Props.C19

/-!
Tie: the storage-call trace read off the *current* source of `dump_signatures_hdf5` and everything it calls
(`GambitV.Gen.pyWriterTrace`, regenerated by harness/pytrace.py on every run) is the trace the C12 / C19 models are about,
and the structural facts about the writer's exception handler and the loader's checks hold.
-/
namespace GambitV.Tie.Py
open GambitV

/-- the writer issues exactly the modelled storage calls, in the modelled order, on both write paths and for every number of signatures -/
theorem writer_trace_eq (fast : Bool) (nsigs : Nat) : Gen.pyWriterTrace fast nsigs = writerTrace fast nsigs := by
  cases fast <;> rfl

/-- hence the writer as it stands never flushes (the case C19's model leaves out does not arise), closes exactly once, and last -/
theorem writer_trace_no_flush (fast : Bool) (nsigs : Nat) : WOp.flush ∉ Gen.pyWriterTrace fast nsigs := by
  rw [writer_trace_eq]
  exact C19.writerTrace_no_flush fast nsigs

theorem writer_trace_close_last (fast : Bool) (nsigs : Nat) :
    (Gen.pyWriterTrace fast nsigs).getLast? = some WOp.close ∧
      (∀ n, n < (Gen.pyWriterTrace fast nsigs).length - 1 → (Gen.pyWriterTrace fast nsigs)[n]? ≠ some WOp.close) := by
  rw [writer_trace_eq]
  exact C19.writerTrace_close_last fast nsigs

/-- the property-level statement about the translated writer: a kill before its last storage call never leaves a loadable file -/
theorem py_crash_never_loads (fast : Bool) (nsigs : Nat) (full : SigStore) (n : Nat)
    (hn : n < (Gen.pyWriterTrace fast nsigs).length) (c : SigCollection) :
    loadFile (crashImage (Gen.pyWriterTrace fast nsigs) full n) ≠ .loaded c := by
  rw [writer_trace_eq] at hn ⊢
  exact C19.crash_never_loads fast nsigs full n hn c

/-- structural facts: the handler removes the partial file and re-raises; the loader checks the magic number, opens read-only,
then checks the marker, in this order -/
theorem hdf5_structural_facts :
    Gen.pyWriterUnwindRemoves = true ∧ Gen.pyLoaderChecksMagic = true ∧ Gen.pyLoaderOpensReadOnly = true ∧
    Gen.pyLoaderChecksMarker = true ∧ Gen.pyLoaderOrder = true ∧ Gen.pyWriterTrace.untranslatable = false := by
  decide

/-! Non-vacuity: the generated trace on concrete arguments. -/
example : Gen.pyWriterTrace true 3 = [.createFile, .setAttr "gambit_signatures_version", .setAttr "kmerspec_k", .setAttr "kmerspec_prefix",
    .setAttr "id", .setAttr "name", .setAttr "id_attr", .setAttr "version", .setAttr "description", .setAttr "extra",
    .createDataset "ids", .createDataset "values", .createDataset "bounds", .close] := rfl
example : (Gen.pyWriterTrace false 2).length = 18 := by decide

end GambitV.Tie.Py
