import GambitV.Gen.PyMatching
import GambitV.Lemmas.PyRt
import GambitV.Lemmas.Taxonomy

/-!
Tie: the generated (state-passing) translation of `matching_taxon` (classify.py) equals the
hand-written model `matchingTaxon`.
-/
namespace GambitV.Tie.Py
open GambitV GambitV.Py

/-- body of the `for t in taxon.ancestors(incself=True)` loop of the generated `matching_taxon` -/
def matchingBody (F : Forest) (x : Nat) (s : Gen.matching_taxon.St) :
    M Gen.matching_taxon.St Gen.matching_taxon.Ret Gen.matching_taxon.St :=
  if F.covers x s.d then .error (.ret (some x)) else .ok { s with t := x }

/-- The loop returns the first covering member of the list, or falls through without touching `d`. -/
theorem forEach_matchingBody (F : Forest) (xs : List Nat) (s : Gen.matching_taxon.St) :
    (∃ a, xs.find? (fun a => F.covers a s.d) = some a ∧
        forEach xs (matchingBody F) s = .error (.ret (some a))) ∨
    (xs.find? (fun a => F.covers a s.d) = none ∧
        ∃ s', forEach xs (matchingBody F) s = .ok (s', true)) := by
  -- the body leaves `d` alone (the invariant of the rule); the statement does not keep that fact
  rcases forEach_findRet (xs := xs) (body := matchingBody F) rfl
      (fun (s' : Gen.matching_taxon.St) => s'.d = s.d) (fun a => F.covers a s.d) some
      (fun x s' hs' hp => by simp only [matchingBody, hs', hp, if_true])
      (fun x s' hs' hp => ⟨{ s' with t := x }, by simp only [matchingBody, hs', hp]; rfl, hs'⟩) rfl with
    hret | ⟨hnone, s', hrun, _⟩
  · exact .inl hret
  · exact .inr ⟨hnone, s', hrun⟩

theorem matching_taxon_eq (F : Forest) (t d : Nat) :
    Gen.matching_taxon F t d = .ok (matchingTaxon F t d) := by
  unfold Gen.matching_taxon Gen.matching_taxon.run matchingTaxon
  rw [forEach_congr (b₂ := matchingBody F)]
  case h =>
    intro x s
    simp only [covers_eq, matchingBody]
    cases F.covers x s.d <;> rfl
  rcases forEach_matchingBody F (F.lineage t) { taxon := t, d := d, t := 0 } with
    ⟨a, hf, hr⟩ | ⟨hf, s', hr⟩
  · simp only [bind, Except.bind, hr, finish_ret, hf]
  · simp only [bind, Except.bind, hr, hf]
    rfl

/-! non-vacuity: the generated function evaluated on a concrete forest -/

/-- `0 ← 1 ← 3`, `0 ← 2`, `4` isolated; node 3 has no threshold -/
def demoForest : Forest :=
  { parent := [none, some 0, some 0, some 1, none], thr := [some 5, some 3, some 3, none, some 2],
    report := [true, true, true, true, true] }

example : Gen.matching_taxon demoForest 3 3 = .ok (some 1) := by decide
example : Gen.matching_taxon demoForest 3 4 = .ok (some 0) := by decide
example : Gen.matching_taxon demoForest 4 3 = .ok none := by decide

end GambitV.Tie.Py
