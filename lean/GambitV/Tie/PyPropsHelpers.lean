import GambitV.Tie.PyClassify

/-!
Helper lemmas shared by the `Tie/PyProps*` files.
-/
namespace GambitV.Tie.Py
open GambitV

theorem path_inj (F : Forest) (hpos : 0 < F.size) {a b : Nat} (h : F.path a = F.path b) : a = b := by
  have ha := path_getLast? F hpos a
  rw [h, path_getLast? F hpos b] at ha
  exact (Option.some.inj ha).symm

theorem getD_lt_size {F : Forest} {gtax : List Nat} (hT : ∀ t ∈ gtax, t < F.size) {c : Nat} (hc : c < gtax.length) :
    gtax.getD c 0 < F.size :=
  hT _ (getD_mem hc 0)

theorem map_genome_gmOf (F : Forest) (gtax ds : List Nat) (o : Option Nat) :
    (o.map (gmOf F gtax ds)).map (·.genome) = o := by
  cases o <;> rfl

end GambitV.Tie.Py
