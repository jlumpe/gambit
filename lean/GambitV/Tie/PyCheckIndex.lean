import GambitV.Gen.PyCheckIndex
import GambitV.Model.Indexing
import GambitV.Lemmas.PyRt

/-!
Tie: the generated translation of `AdvancedIndexingMixin._check_index` (util/indexing.py) equals the
hand-written model `checkIndex` of `Model/Indexing.lean`.
-/
namespace GambitV.Tie.Py
open GambitV GambitV.Gen

/-- `_check_index(i)` on a collection of length `n`: the wrapped index, or `IndexError`. -/
theorem check_index_eq (n : Nat) (i : Int) :
    Gen.check_index (n : Int) i = (match checkIndex n i with
      | .ok j => .ok (j : Int)
      | .error _ => .raised .IndexError) := by
  unfold Gen.check_index check_index.run checkIndex
  simp only [decide_eq_true_eq]
  generalize (if i < 0 then i + (n : Int) else i) = i2
  by_cases hin : 0 ≤ i2 ∧ i2 < (n : Int)
  · simp only [py_eval, hin, decide_true, Bool.and_self, Bool.not_true, and_self, Int.toNat_of_nonneg hin.1]
  · have hb : (decide (0 ≤ i2) && decide (i2 < (n : Int))) = false := by simpa using hin
    simp only [py_eval, hb, hin, Bool.not_false]

example : Gen.check_index 5 (-2) = .ok 3 := by decide
example : Gen.check_index 5 4 = .ok 4 := by decide
example : Gen.check_index 5 5 = .raised .IndexError := by decide
example : Gen.check_index 5 (-6) = .raised .IndexError := by decide

end GambitV.Tie.Py
