import GambitV.Gen.PyCalcSig
import GambitV.Props.C01
import GambitV.Tie.PyFindKmers
import GambitV.Tie.PyKmerWrappers
import GambitV.Lemmas.TiePyCalcSig

/-!
Tie: the generated translations of `KmerMatch.kmer_index` (gambit/kmers.py) and of `accumulate_kmers`, `default_accumulator`,
`calc_signature` (gambit/sigs/calc.py) equal the hand-written model of `Model/Find.lean` (`fwdKmer`, `revKmer`, `seqIndices`,
`allIndices`, `signature`).

Each proof unfolds the generated `run` once, rewrites the calls with the ties already proved (`kmer_indices_fwd/rev`,
`kmer_to_index_eq`, `kmer_to_index_rc_eq`, `find_kmers_eq'`) and hands the `for` loop, as it
stands in the goal (`Py.finish_bind_loop`), to `Py.forEach_sim` or its `filterMap` form `Py.forEach_filterMap_sim` (a body that falls through or `continue`s).
The only facts proved against the generated term are the per-iteration ones, each by one `simp only`.

The array accumulator never refuses an index: the slices `fwdKmer` / `revKmer` have at most `k` bytes, so an index the wrappers
return is below `4^k` (`TieCalcSig.matchIndex_lt`, from `C07.encode_lt`); nothing beyond `1 ≤ k` (needed by `find_kmers_eq'`) and
`a.k = k` is required.
-/
namespace GambitV.Tie.Py
open GambitV GambitV.Gen GambitV.TieCalcSig

/-- `KmerMatch.kmer_index` of a forward match at `loc`: the index of the k nucleotides after the prefix, or `ValueError` -/
theorem kmer_index_fwd (k : Nat) (pre s : List UInt8) (loc : Nat) :
    Gen.kmer_index { k := (k : Int), pre := pre } s (loc : Int) false
      = (match kmerToIndex (fwdKmer k pre.length s loc) with | .ok i => .ok (i : Int) | .error _ => .raised .ValueError) := by
  obtain ⟨a, b, h1, h2⟩ := kmer_indices_fwd k pre s loc
  unfold Gen.kmer_index kmer_index.run
  simp only [h1, h2, kmer_to_index_eq, py_eval]
  cases kmerToIndex (fwdKmer k pre.length s loc) with
  | ok i => simp only [py_eval]
  | error e => simp only [py_eval]

/-- … of a reverse match found at `loc ≥ k` (position of the last prefix nucleotide `loc + |pre| - 1`): the reverse-complement index of the k
nucleotides before it -/
theorem kmer_index_rev (k : Nat) (pre s : List UInt8) (loc : Nat) (hl : k ≤ loc) :
    Gen.kmer_index { k := (k : Int), pre := pre } s ((loc : Int) + (pre.length : Int) - 1) true
      = (match kmerToIndexRc (revKmer k s loc) with | .ok i => .ok (i : Int) | .error _ => .raised .ValueError) := by
  obtain ⟨a, b, h1, h2⟩ := kmer_indices_rev k pre s loc hl
  unfold Gen.kmer_index kmer_index.run
  simp only [h1, h2, kmer_to_index_rc_eq, py_eval]
  cases kmerToIndexRc (revKmer k s loc) with
  | ok i => simp only [py_eval]
  | error e => simp only [py_eval]

/-- `kmer_index` of any match `find_kmers` yields: the index the model assigns to it, or `ValueError` -/
theorem kmer_index_match (k : Nat) (pre s : List UInt8) (m : Int × Bool) (hm : m ∈ matchList k pre s) :
    Gen.kmer_index { k := (k : Int), pre := pre } s m.1 m.2
      = (match matchIndex k pre s m with | some i => .ok (i : Int) | none => .raised .ValueError) := by
  rcases mem_matchList k pre s m hm with ⟨l, rfl⟩ | ⟨l, hl, rfl⟩
  · rw [kmer_index_fwd, matchIndex_fwd]
    cases kmerToIndex (fwdKmer k pre.length s l) <;> rfl
  · rw [kmer_index_rev k pre s l hl, matchIndex_rev]
    cases kmerToIndexRc (revKmer k s l) <;> rfl

/-- `accumulate_kmers`: the indices of one sequence are added in the order the model says; matches whose k-mer cannot be encoded are skipped.
(Set flavour: no index can be refused; array flavour: indices below 4^k, which indices of slices of at most k bytes always are —
`TieCalcSig.matchIndex_lt` with `C07.encode_lt`.) -/
theorem accumulate_kmers_eq (a : Py.Acc) (k : Nat) (pre s : List UInt8) (hk : 1 ≤ k) (hak : a.k = k) :
    Gen.accumulate_kmers a { k := (k : Int), pre := pre } s = .ok { a with elems := a.elems ++ seqIndices k pre s } := by
  unfold Gen.accumulate_kmers accumulate_kmers.run
  simp only [find_kmers_eq' k pre s hk, py_eval]
  refine Py.finish_bind_loop _ (Py.forEach_filterMap_sim rfl (fun st => st.accumulator)
    (fun st => st.kmerspec = { k := (k : Int), pre := pre } ∧ st.seq = s ∧ st.accumulator.k = k)
    (matchIndex k pre s) (fun (a : Py.Acc) (i : Nat) => ({ a with elems := a.elems ++ [i] } : Py.Acc))
    (by
      rintro x hx st ⟨h1, h2, h3⟩ hg
      simp only [h1, h2, kmer_index_match k pre s x hx, hg, py_eval]
      exact ⟨_, Or.inr rfl, ⟨rfl, rfl, h3⟩, rfl⟩)
    (by
      rintro x hx st i ⟨h1, h2, h3⟩ hg
      have hb : Py.Acc.addBad st.accumulator (i : Int) = false :=
        addBad_false _ _ (by rw [h3]; exact matchIndex_lt k pre s x i hg)
      simp only [h1, h2, kmer_index_match k pre s x hx, hg, hb, py_eval]
      exact ⟨_, Or.inl rfl, ⟨rfl, rfl, h3⟩, add_natCast _ _⟩)
    ⟨rfl, rfl, hak⟩) ?_
  rintro r ⟨-, hobs⟩
  simp only [py_eval, hobs]
  rw [foldl_append_elems (fun i => [i]), List.flatMap_singleton']
  exact congrArg (fun l => Py.Res.ok ({ a with elems := a.elems ++ l } : Py.Acc)) (filterMap_matchList k pre s)

/-- `default_accumulator(k)`: the array flavour up to `k = 11`, the set flavour above -/
theorem default_accumulator_eq (k : Nat) :
    Gen.default_accumulator (k : Int) = .ok (Py.Acc.new (decide (k ≤ 11)) (k : Int)) := by
  unfold Gen.default_accumulator default_accumulator.run
  by_cases h : k ≤ 11
  · have h1 : decide ((k : Int) > 11) = false := by simp only [decide_eq_false_iff_not]; omega
    simp only [h1, h, Bool.and_false, decide_true, py_eval]
  · have h1 : decide ((k : Int) > 11) = true := by simp only [decide_eq_true_eq]; omega
    simp only [h1, h, Bool.and_false, decide_false, py_eval]

/-- without an accumulator `calc_signature` runs with the default one -/
theorem calc_signature_none (k : Nat) (pre : List UInt8) (seqs : List (List UInt8)) :
    Gen.calc_signature { k := (k : Int), pre := pre } seqs none
      = Gen.calc_signature { k := (k : Int), pre := pre } seqs (some (Py.Acc.new (decide (k ≤ 11)) (k : Int))) := by
  unfold Gen.calc_signature calc_signature.run
  simp only [Option.isNone_none, default_accumulator_eq, Option.isNone_some, py_eval]

/-- `calc_signature` with any accumulator of the same `k`: what it held before, and the indices of all sequences -/
theorem calc_signature_some (k : Nat) (pre : List UInt8) (seqs : List (List UInt8)) (hk : 1 ≤ k) (a : Py.Acc) (hak : a.k = k) :
    Gen.calc_signature { k := (k : Int), pre := pre } seqs (some a)
      = .ok (Py.Acc.signature { a with elems := a.elems ++ allIndices k pre seqs }) := by
  unfold Gen.calc_signature calc_signature.run
  simp only [Option.isNone_some, py_eval]
  refine Py.finish_bind_loop _ (Py.forEach_sim rfl
    (fun st (b : Py.Acc) => st.kmerspec = { k := (k : Int), pre := pre } ∧ st.accumulator = some b ∧ b.k = k)
    (fun b x => { b with elems := b.elems ++ seqIndices k pre x })
    (by
      rintro x hx st b ⟨h1, ha', hk'⟩
      simp only [h1, ha', Option.isNone_some, Option.getD_some, accumulate_kmers_eq b k pre x hk hk', py_eval]
      exact ⟨_, Or.inl rfl, rfl, rfl, hk'⟩)
    ⟨rfl, rfl, hak⟩) ?_
  rintro r ⟨-, ha', -⟩
  simp only [ha', Option.isNone_some, py_eval, foldl_append_elems]
  rfl

/-- `calc_signature` with a caller-supplied empty accumulator of the same k, of either flavour: the model's signature of the sequences -/
theorem calc_signature_acc (k : Nat) (pre : List UInt8) (seqs : List (List UInt8)) (hk : 1 ≤ k) (isArr : Bool) :
    Gen.calc_signature { k := (k : Int), pre := pre } seqs (some { isArray := isArr, k := k, elems := [] })
      = .ok ((signature k pre seqs).map (fun (x : Nat) => (x : Int))) := by
  rw [calc_signature_some k pre seqs hk _ rfl]
  simp only [List.nil_append]
  rfl

/-- `calc_signature` with the default accumulator (array for k ≤ 11, set above): the model's signature of the sequences -/
theorem calc_signature_eq (k : Nat) (pre : List UInt8) (seqs : List (List UInt8)) (hk : 1 ≤ k) :
    Gen.calc_signature { k := (k : Int), pre := pre } seqs none = .ok ((signature k pre seqs).map (fun (x : Nat) => (x : Int))) := by
  rw [calc_signature_none]
  have h : Py.Acc.new (decide (k ≤ 11)) (k : Int) = { isArray := decide (k ≤ 11), k := k, elems := [] } := by
    unfold Py.Acc.new
    rw [Int.toNat_natCast]
  rw [h]
  exact calc_signature_acc k pre seqs hk _

/-- PROPERTY (C01) of the translated code: the signature is exactly the specification list — the sorted duplicate-free indices of all
prefix-anchored k-mers on both strands of all sequences -/
theorem py_calc_signature_spec (k : Nat) (pre : List UInt8) (seqs : List (List UInt8)) (hk : 1 ≤ k) (hk32 : k ≤ 32) (hp : pre ≠ [])
    (hpre : ∀ b ∈ pre, b ∈ [65, 67, 71, 84]) :
    Gen.calc_signature { k := (k : Int), pre := pre } seqs none = .ok ((specList k pre seqs).map (fun (x : Nat) => (x : Int))) := by
  rw [calc_signature_eq k pre seqs hk, C01.signature_eq_specList ⟨hk, hk32, hp, hpre⟩]

/-! non-vacuity -/

-- `ACGTAC`, prefix `A`, k = 2: forward hit at 0 gives `CG` (6), the one at 4 is cut off by the end bound; the reverse prefix `T` at 3
-- gives the reverse complement of `CG`, again 6
example : Gen.calc_signature { k := 2, pre := [65] } [[65, 67, 71, 84, 65, 67]] none = .ok [6] := by decide +kernel
example : signature 2 [65] [[65, 67, 71, 84, 65, 67]] = [6] := by decide
-- two sequences, `acgtnccgt` (lower case: forward `GT` = 11 at 0, reverse hits at 2 and 7 give 11 and 10) and `ACGNACTTCCGT`
-- (the forward match at 0 has the invalid byte `N` in its k-mer and is skipped; 15 at 4; reverse hit at 10 gives 10), prefix `AC`, k = 2
example : Gen.calc_signature { k := 2, pre := [65, 67] }
    [[97, 99, 103, 116, 110, 99, 99, 103, 116], [65, 67, 71, 78, 65, 67, 84, 84, 67, 67, 71, 84]] none = .ok [10, 11, 15] := by decide +kernel
example : signature 2 [65, 67] [[97, 99, 103, 116, 110, 99, 99, 103, 116], [65, 67, 71, 78, 65, 67, 84, 84, 67, 67, 71, 84]]
    = [10, 11, 15] := by decide +kernel
example : Gen.accumulate_kmers { isArray := true, k := 2, elems := [7] } { k := 2, pre := [65, 67] }
    [65, 67, 71, 78, 65, 67, 84, 84, 67, 67, 71, 84] = .ok { isArray := true, k := 2, elems := [7, 15, 10] } := by decide +kernel
example : Gen.kmer_index { k := 2, pre := [65, 67] } [65, 67, 71, 78, 65, 67, 84, 84, 67, 67, 71, 84] 0 false
    = .raised .ValueError := by decide
example : Gen.kmer_index { k := 2, pre := [65, 67] } [65, 67, 71, 78, 65, 67, 84, 84, 67, 67, 71, 84] 4 false = .ok 15 := by decide
example : Gen.kmer_index { k := 2, pre := [65, 67] } [65, 67, 71, 78, 65, 67, 84, 84, 67, 67, 71, 84] 11 true = .ok 10 := by decide

end GambitV.Tie.Py
