import GambitV.Gen.PySeqFiles
import GambitV.Model.SeqFiles
import GambitV.Model.Pipeline
import GambitV.Tie.PyLabels

/-!
Tie: `read_lines` (util/io.py) and `get_sequence_files` (cli/common.py) as they stand in the *current* source against the models
`readLines` / `sequenceFilesP`, and the link to the coarser `sequenceFiles` / `fileLabels` the theorems of C08 are about.
Environment of the translation: `LINES`, the lines iterating over the opened list file yields; a path is its text, `str(Path(p))`
pathlib's normal form `Py.pathStr`.
-/
namespace GambitV.Tie.Py
open GambitV

private theorem readLines_snoc (pre : List (List Char)) (x : List Char) (strip skip : Bool) :
    readLines (pre ++ [x]) strip skip =
      readLines pre strip skip ++
        (if !(skip && (if strip then Py.strStrip x else Py.strRstripChar '\n' x).isEmpty)
          then [if strip then Py.strStrip x else Py.strRstripChar '\n' x] else []) := by
  simp only [readLines, List.map_append, List.filter_append, List.map_cons, List.map_nil, List.filter_cons, List.filter_nil]

theorem read_lines_eq (LINES : List (List Char)) (strip skip : Bool) :
    Gen.read_lines LINES () strip skip = .ok (readLines LINES strip skip) := by
  unfold Gen.read_lines Gen.read_lines.run
  simp only [py_eval]
  refine Py.finish_bind_loop _ (Py.forEach_inv rfl
    (fun pre s => s.yielded = readLines pre strip skip ∧ s.strip = strip ∧ s.skip_empty = skip)
    (by
      intro pre x _ s _ ⟨hy, hs, hk⟩
      simp only [hs, hk]
      rw [readLines_snoc]
      generalize (if strip = true then Py.strStrip x else Py.strRstripChar '\n' x) = ln
      simp only [Bool.not_not]
      cases hb : (skip && ln.isEmpty) <;> simp [hy])
    ⟨rfl, rfl, rfl⟩) ?_
  rintro s' ⟨hy, -, -⟩
  simp only [py_eval, hy]

/-- the loop of `get_sequence_files` that computes the ids -/
private theorem ids_loop {xs : List (List Char)} {body : List Char → Gen.get_sequence_files.St → Py.M Gen.get_sequence_files.St Gen.get_sequence_files.Ret Gen.get_sequence_files.St}
    {s : Gen.get_sequence_files.St} {w} (hw : Py.forEach xs body s = w) (sd se : Bool)
    (hbody : ∀ x s, body x s = Except.bind (Py.call (Gen.get_file_id x s.strip_dir s.strip_ext))
        (fun v => .ok { s with f := x, ids := s.ids ++ [v] }))
    (hsd : s.strip_dir = sd) (hse : s.strip_ext = se) (hids : s.ids = []) :
    ∃ s', w = .ok (s', true) ∧ s'.ids = xs.map (fileId sd se) ∧ s'.files = s.files := by
  obtain ⟨s', hw', h1, _, _, h4⟩ := Py.forEach_inv hw
    (fun pre s' => s'.ids = pre.map (fileId sd se) ∧ s'.strip_dir = sd ∧ s'.strip_ext = se ∧ s'.files = s.files)
    (by
      intro pre x _ s' _ ⟨h1, h2, h3, h4⟩
      rw [hbody, get_file_id_fileId]
      simp only [Py.call_ok, Except.bind]
      exact ⟨_, .inl rfl, by simp [h1, h2, h3], h2, h3, h4⟩)
    ⟨by simp [hids], hsd, hse, rfl⟩
  exact ⟨s', hw', h1, h4⟩

/-- the translated `get_sequence_files` is `sequenceFilesP` (a `TypeError` when a list file is given without a base directory and has lines) -/
theorem get_sequence_files_eq (LINES : List (List Char)) (explicit : Option (List (List Char))) (listfile : Option Unit)
    (ldir : Option (List Char)) (sd se : Bool) :
    Gen.get_sequence_files LINES explicit listfile ldir sd se =
      match sequenceFilesP LINES explicit listfile.isSome ldir sd se with
      | .ok r => .ok r
      | .error _ => .raised .TypeError := by
  unfold Gen.get_sequence_files Gen.get_sequence_files.run sequenceFilesP
  cases hex : (!(explicit.getD []).isEmpty) with
  | true =>
    simp only [py_eval]
    refine Py.finish_bind_loop _ (ids_loop rfl sd se (fun _ _ => rfl) rfl rfl rfl) ?_
    rintro s' ⟨hi, hf⟩
    simp only [py_eval, hi, hf]
  | false =>
    cases listfile with
    | none => rfl
    | some u =>
      cases u
      simp only [py_eval, Option.isSome_some, Option.isNone_some, Option.getD_some, read_lines_eq, bind_assoc]
      cases ldir with
      | some d =>
        refine Py.finish_bind_loop _ (Py.forEach_inv rfl
          (fun pre s => s.paths = pre.map (fun l => Py.pathJoin (Py.pathStr d) l) ∧ s.listfile_dir = some d
            ∧ s.lines = readLines LINES true true ∧ s.strip_dir = sd ∧ s.strip_ext = se)
          (by
            intro pre x _ s _ ⟨h1, h2, h3, h4, h5⟩
            simp only [h2, Option.isNone_some, Py.guard_false, Option.getD_some]
            exact ⟨_, .inl rfl, by simp [h1], rfl, h3, h4, h5⟩)
          ⟨rfl, rfl, rfl, rfl, rfl⟩) ?_
        rintro s' ⟨hp, hd, hln, hsd, hse⟩
        simp only [py_eval]
        refine Py.finish_bind_loop _ (ids_loop rfl sd se (fun _ _ => rfl) hsd hse rfl) ?_
        rintro s'' ⟨hi, hf⟩
        simp only [py_eval, hi, hf, hp, hln]
      | none =>
        cases hl : readLines LINES true true with
        | nil => rfl
        | cons l ls => rfl

/-- one label and one file per input, in input order: positional -/
theorem py_seqfiles_positional (LINES : List (List Char)) (ps : List (List Char)) (hne : ps ≠ []) (listfile : Option Unit) (ldir : Option (List Char)) :
    Gen.get_sequence_files LINES (some ps) listfile ldir true true
      = .ok (some ((ps.map Py.pathStr).map fileLabel, ps.map Py.pathStr)) := by
  rw [get_sequence_files_eq]
  cases ps with
  | nil => exact absurd rfl hne
  | cons p ps => simp [sequenceFilesP, fileId, fileLabel]

/-- … and list file: the non-empty stripped lines, labelled by the line itself, opened below the base directory -/
theorem py_seqfiles_list (LINES : List (List Char)) (d : List Char) :
    Gen.get_sequence_files LINES none (some ()) (some d) true true
      = .ok (some ((readLines LINES true true).map fileLabel, (readLines LINES true true).map (fun l => Py.pathJoin (Py.pathStr d) l))) := by
  rw [get_sequence_files_eq]
  simp [sequenceFilesP, fileId, fileLabel]

/-- on positional paths that are their own normal form the labels are those of the model C08's theorems are about -/
theorem py_seqfiles_labels_positional (LINES : List (List Char)) (ps : List (List Char)) (hne : ps ≠ []) (hnorm : ∀ p ∈ ps, Py.pathStr p = p)
    (listfile : Option Unit) (ldir : Option (List Char)) :
    ∃ files, sequenceFiles ps none [] = some files ∧
      Gen.get_sequence_files LINES (some ps) listfile ldir true true = .ok (some (fileLabels files, files.map (·.2))) := by
  have hmap : ps.map Py.pathStr = ps := (List.map_congr_left hnorm).trans (List.map_id ps)
  refine ⟨ps.map (fun p => (p, p)), ?_, ?_⟩
  · cases ps with
    | nil => exact absurd rfl hne
    | cons p ps => simp [sequenceFiles]
  · rw [py_seqfiles_positional LINES ps hne, hmap]
    simp [fileLabels, Function.comp_def]

end GambitV.Tie.Py
