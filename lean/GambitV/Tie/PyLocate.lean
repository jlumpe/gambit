import GambitV.Gen.PyLocate
import GambitV.Model.RefDb
import GambitV.Props.C04

/-!
Tie: `ReferenceDatabase.locate_files` as it stands in the *current* source (translated by harness/py2lean.py on every run; the
environment `DIR` is the list of names `path.iterdir()` yields, the local helper `check_single_match` is inlined at both call sites)
against the model `locateFiles`: exactly one genome file and exactly one signature file, else `DatabaseLoadError`.
-/
namespace GambitV.Tie.Py
open GambitV

theorem pathSuffix_eq (name : List Char) : Py.pathSuffix name = pathSuffix name := rfl

/-- the translated `locate_files` is the model's `locateFiles`: the pair of files when there is exactly one of each kind, a raise otherwise -/
theorem locate_files_eq (DIR : List (List Char)) (path : List Char) :
    Gen.locate_files DIR () path =
      match locateFiles DIR with
      | some (g, s) => .ok (g, s)
      | none => .raised .Other := by
  have hG : DIR.filter (fun f => Py.pathSuffix f == ".gdb".toList || Py.pathSuffix f == ".db".toList) = DIR.filter isGenomesFile := rfl
  have hS : DIR.filter (fun f => Py.pathSuffix f == ".gs".toList || Py.pathSuffix f == ".h5".toList) = DIR.filter isSignaturesFile := rfl
  unfold Gen.locate_files Gen.locate_files.run locateFiles
  simp only [hG, hS]
  generalize DIR.filter isGenomesFile = G
  generalize DIR.filter isSignaturesFile = S
  match G, S with
  | [], _ => rfl
  | _ :: _ :: t, _ =>
    have ht : ¬ ((t.length : Int) + 1 + 1 = 1) := by omega
    simp [ht, Py.finish, bind, Except.bind, throw, throwThe, MonadExceptOf.throw]
  | [g], [] => rfl
  | [g], _ :: _ :: t =>
    have ht : ¬ ((t.length : Int) + 1 + 1 = 1) := by omega
    simp [ht, Py.finish, Py.guard, bind, Except.bind, pure, Except.pure, throw, throwThe, MonadExceptOf.throw]
  | [g], [s] => rfl

/-- on the translated code: the call succeeds exactly when the directory holds one `.gdb`/`.db` file and one `.gs`/`.h5` file, and then
returns those two (C04 `locate_ok_iff`) -/
theorem py_locate_ok_iff (DIR : List (List Char)) (path g s : List Char) :
    Gen.locate_files DIR () path = .ok (g, s) ↔ DIR.filter isGenomesFile = [g] ∧ DIR.filter isSignaturesFile = [s] := by
  rw [locate_files_eq, ← C04.locate_ok_iff]
  cases h : locateFiles DIR with
  | none => simp
  | some p => obtain ⟨g', s'⟩ := p; simp

/-- … and it never returns silently otherwise -/
theorem py_locate_raises (DIR : List (List Char)) (path : List Char)
    (h : ¬ ((DIR.filter isGenomesFile).length = 1 ∧ (DIR.filter isSignaturesFile).length = 1)) :
    Gen.locate_files DIR () path = .raised .Other := by
  rw [locate_files_eq]
  cases hl : locateFiles DIR with
  | none => rfl
  | some p =>
    obtain ⟨g, s⟩ := p
    obtain ⟨hg, hs⟩ := (C04.locate_ok_iff DIR g s).mp hl
    exact absurd ⟨by rw [hg]; rfl, by rw [hs]; rfl⟩ h

end GambitV.Tie.Py
