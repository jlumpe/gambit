import GambitV.Gen.PyBulk
import GambitV.Tie.PyBulkDefs
import GambitV.Props.C05
import GambitV.Tie.PyChunks
import GambitV.Lemmas.TiePyBulk

/-!
Tie of the machine-generated translation of the bulk distance functions of `gambit/metric.py` (`GambitV.Gen.PyBulk`:
`jaccarddist_array`, `jaccarddist_matrix`) to the hand-written models of `Model/Bulk.lean` (`arrayDists`, `matrixModel`), and the
C05 property carried over to the translated `jaccarddist_matrix`.

Each generated `run` is unfolded once; every loop is named with `generalize hw : Py.forEach _ _ _ = w` and evaluated with the
simulation rule `Py.forEach_sim` (the body keeps a relation between the state and an abstract value, here the buffer).  The state-free
descriptions of the loop bodies are `array_some` (= `ArrSpec`), `chunk_spec` (`ref_chunk = refs[idx]`) and `row_step` (`out[i, a:b] = jaccarddist_array(…)`).
-/
namespace GambitV.Tie.Py
open GambitV

/-- an array of a kernel type passes `_cast_sigs_array` unchanged -/
theorem cast_sigs_array_id (a : Py.Arr) (h : a.dtype.kernelOk = true) : Gen.cast_sigs_array a = .ok a := by
  obtain ⟨⟨k, sz, nat⟩, vals⟩ := a
  simp only [Py.DType.kernelOk, Bool.and_eq_true, Bool.or_eq_true, beq_iff_eq] at h
  obtain ⟨⟨rfl, rfl⟩, hs⟩ := h
  rcases hs with (rfl | rfl) | rfl <;> rfl

theorem zipWith_ignore {α δ : Type} (f : α → δ) (xs : List α) (o : List δ) (h : o.length = xs.length) :
    List.zipWith (fun x (_ : δ) => f x) xs o = xs.map f :=
  calc List.zipWith (fun x (_ : δ) => f x) xs o = (xs.zip o).map (f ∘ Prod.fst) :=
      (List.map_zip_eq_zipWith (f := f ∘ Prod.fst)).symm
    _ = ((xs.zip o).map Prod.fst).map f := List.map_map.symm
    _ = xs.map f := by rw [List.map_fst_zip (Nat.le_of_eq h.symm)]

/-- without a buffer the function allocates one and proceeds as with a caller-supplied buffer -/
theorem array_none (q : Py.Arr) (c : Py.Sigs) (hq : q.dtype.kernelOk = true) :
    Gen.jaccarddist_array q c none = Gen.jaccarddist_array q c (some (Py.ND.empty [(c.items.length : Int)])) := by
  have hne := (TieBulk.shapeNe_eq_false (Py.ND.empty [(c.items.length : Int)]) c.items.length).2 (by simp [Py.ND.empty])
  have hd : (Py.ND.empty [(c.items.length : Int)]).okDtype = true := rfl
  unfold Gen.jaccarddist_array Gen.jaccarddist_array.run
  simp only [py_eval, cast_sigs_array_id q hq, Option.isNone_none, Option.isNone_some, Option.getD_some, hne, hd, Bool.not_true]

theorem arrs_length (c : Py.Sigs) : c.arrs.length = c.items.length := by
  unfold Py.Sigs.arrs
  rw [List.length_map]

theorem arrs_getElem? (c : Py.Sigs) (i : Nat) (a : Py.Arr) (h : c.arrs[i]? = some a) :
    i < c.items.length ∧ a.dtype.kernelOk = c.dtype.kernelOk := by
  unfold Py.Sigs.arrs at h
  rw [List.getElem?_map] at h
  cases hi : c.items[i]? with
  | none => rw [hi] at h; cases h
  | some v =>
    rw [hi] at h
    obtain ⟨hlt, -⟩ := List.getElem?_eq_some_iff.1 hi
    cases h
    exact ⟨hlt, rfl⟩

theorem array_some (q : Py.Arr) (c : Py.Sigs) (o : Py.ND) (vals : List UInt32)
    (hq : q.dtype.kernelOk = true) (hc : c.dtype.kernelOk = true)
    (hd : o.okDtype = true) (hsh : o.shape = [c.items.length]) (hr : o.rows = [vals]) (hl : vals.length = c.items.length) :
    Gen.jaccarddist_array q c (some o) = .ok { o with rows := [(Py.Sigs.nat c).map (kdist q.natVals)] } := by
  have hne := (TieBulk.shapeNe_eq_false o _).2 hsh
  have hcv : c.values.dtype.kernelOk = true := hc
  unfold Gen.jaccarddist_array Gen.jaccarddist_array.run
  simp only [py_eval, cast_sigs_array_id q hq, Option.isNone_some, Option.getD_some, hne, hd, Bool.not_true]
  by_cases hk : c.kind = 2
  · simp only [py_eval, hk, decide_true, cast_sigs_array_id c.values hcv, hq, hcv, Bool.and_self, Bool.not_true, Option.getD_some,
      Option.isNone_some, TieBulk.parallelDists_eq q c o vals hr hl]
    rw [hd]
    rfl
  · simp only [py_eval, hk, decide_false]
    generalize hw : Py.forEach _ _ _ = w
    have hsim := Py.forEach_sim hw
      (fun (s : Gen.jaccarddist_array.St) (b : List UInt32) =>
        s.query = q ∧ s.out = some { o with rows := [b] } ∧ b.length = c.items.length)
      (TieBulk.setAt (fun (x : Py.Arr) (_ : UInt32) => jaccardBits q.natVals x.natVals))
      ?_ (b := vals) ⟨rfl, by rw [← hr], hl⟩
    · obtain ⟨s', rfl, -, hR, -⟩ := hsim
      have hla : vals.length = c.arrs.length := by rw [hl, arrs_length]
      rw [TieBulk.foldl_enum_set _ c.arrs vals hla, zipWith_ignore _ _ _ hla] at hR
      simp only [py_eval, hR, Option.isNone_some, Option.getD_some]
      rw [hd]
      simp only [Py.Sigs.arrs, Py.Sigs.nat, List.map_map]
      rfl
    · intro x hx s b ⟨h1, h2, h3⟩
      obtain ⟨i, hi, rfl⟩ := Py.mem_enumerate c.arrs x hx
      obtain ⟨hlt, hxa⟩ := arrs_getElem? c i _ (List.getElem?_eq_getElem hi)
      rw [hc] at hxa
      obtain ⟨r, hbr⟩ : ∃ r, b[i]? = some r := ⟨_, List.getElem?_eq_getElem (by rw [h3]; exact hlt)⟩
      simp only [py_eval, cast_sigs_array_id _ hxa, h1, hq, hxa, Bool.and_self, Bool.not_true, h2, Option.getD_some, Py.ND.vals1,
        List.headD_cons, Py.getItem?_nat, hbr, Option.isNone_some]
      refine ⟨_, .inl rfl, ?_⟩
      simp only [Py.ND.set1, Py.ND.vals1, List.headD_cons, Py.listSet_nat,
        TieBulk.setAt_nat _ b i _ r hbr, List.length_set, h3, and_self]

theorem jaccarddist_array_spec : ArrSpec :=
  array_some

/-- without a buffer: a fresh float32 array of length `len(refs)` holding the distances -/
theorem jaccarddist_array_eq (q : Py.Arr) (c : Py.Sigs) (hq : q.dtype.kernelOk = true) (hc : c.dtype.kernelOk = true) :
    Gen.jaccarddist_array q c none
      = .ok { okDtype := true, shape := [c.items.length], rows := [(Py.Sigs.nat c).map (kdist q.natVals)] } := by
  rw [array_none q c hq, array_some q c _ (List.replicate c.items.length 0) hq hc rfl
    (by simp [Py.ND.empty]) (by simp [Py.ND.empty]) (by simp)]
  simp [Py.ND.empty]

/-- a buffer of the wrong length or type is refused -/
theorem jaccarddist_array_bad_out (q : Py.Arr) (c : Py.Sigs) (o : Py.ND) (hq : q.dtype.kernelOk = true)
    (h : o.shape ≠ [c.items.length] ∨ o.okDtype = false) :
    Gen.jaccarddist_array q c (some o) = .raised .ValueError := by
  unfold Gen.jaccarddist_array Gen.jaccarddist_array.run
  simp only [py_eval, cast_sigs_array_id q hq, Option.isNone_some, Option.getD_some]
  by_cases hs : o.shape = [c.items.length]
  · have hne : Py.ND.shapeNe o [(c.items.length : Int)] = false := (TieBulk.shapeNe_eq_false o _).2 hs
    have hd : o.okDtype = false := by
      rcases h with h | h
      · exact absurd hs h
      · exact h
    simp only [py_eval, hne, hd, Bool.not_false]
  · have hne : Py.ND.shapeNe o [(c.items.length : Int)] = true :=
      Bool.of_not_eq_false (mt (TieBulk.shapeNe_eq_false o _).1 hs)
    simp only [py_eval, hne]

/-! ### `jaccarddist_matrix` -/

theorem nat_length (c : Py.Sigs) : (Py.Sigs.nat c).length = c.items.length := by
  unfold Py.Sigs.nat; rw [List.length_map]

/-- the references of one chunk as the model selects them -/
def selSigs (c : Py.Sigs) (idxs : List Nat) (a b : Nat) : List (List Nat) :=
  (slc idxs a b).map (fun j => (Py.Sigs.nat c).getD j default)

/-- `nrefs`: the length computed under `if ref_indices is None` is that of the model's selection `idx.getD (range n)` -/
theorem nrefs_eq (c : Py.Sigs) (idx : Option (List Nat)) (idxI : Option (List Int))
    (hI : idx.map (fun l => l.map (fun (j : Nat) => (j : Int))) = idxI) :
    (if idxI.isNone then (c.items.length : Int) else (((idxI.getD []).length : Nat) : Int))
      = (((idx.getD (List.range c.items.length)).length : Nat) : Int) := by
  subst hI
  cases idx <;> simp

/-- `ref_chunk = refs[idx]`: never an `IndexError`, and the chunk holds the signatures the model selects -/
theorem chunk_spec (c : Py.Sigs) (idx : Option (List Nat)) (hidx : ∀ l, idx = some l → ∀ j ∈ l, j < c.items.length)
    (idxI : Option (List Int)) (hI : idx.map (fun l => l.map (fun (j : Nat) => (j : Int))) = idxI) (a b : Nat) :
    ∃ chunk, Py.Sigs.get? c (if idxI.isNone then Py.Index.slice (a : Int) (b : Int)
        else Py.Index.ints (Py.slice (idxI.getD []) (some (a : Int)) (some (b : Int)))) = some chunk
      ∧ chunk.dtype = c.dtype ∧ Py.Sigs.nat chunk = selSigs c (idx.getD (List.range c.items.length)) a b
      ∧ chunk.items.length = min b (idx.getD (List.range c.items.length)).length - a := by
  subst hI
  cases idx with
  | none =>
    refine ⟨c.getSlice a b, by simp [Py.Sigs.get?], rfl, ?_, ?_⟩
    · simp only [Py.Sigs.nat, Py.Sigs.getSlice, selSigs, Option.getD_none, TieBulk.slice_eq_slc]
      rw [← List.length_map (as := c.items) (f := fun it => it.map Int.toNat), TieBulk.slc_range_getD, slc_map]
    · simp only [Py.Sigs.getSlice, TieBulk.slice_eq_slc, length_slc, Option.getD_none, List.length_range]
  | some l =>
    have hin : ∀ j ∈ slc l a b, j < c.items.length := fun j hj => hidx l rfl j (mem_slc l a b j hj)
    refine ⟨{ c with items := (slc l a b).map (fun j => c.items.getD j []) }, ?_, rfl, ?_, ?_⟩
    · simp only [py_eval, Option.map_some, Option.isNone_some, Option.getD_some, Py.Sigs.get?, TieBulk.slice_eq_slc, slc_map,
        TieBulk.getIdx?_nat c _ hin]
    · simp only [Py.Sigs.nat, selSigs, Option.getD_some, List.map_map]
      apply List.map_congr_left
      intro j _
      exact (getD_map (fun it => it.map Int.toNat) c.items j []).symm
    · simp only [List.length_map, length_slc, Option.getD_some]

/-- a plain sequence of signatures is wrapped in a `SignatureList` first -/
theorem matrix_kind (qs : List Py.Arr) (c : Py.Sigs) (idxI : Option (List Int)) (out : Option Py.ND) (ch : Option Int) (hk : ¬ 1 ≤ c.kind) :
    Gen.jaccarddist_matrix qs c idxI out ch () = Gen.jaccarddist_matrix qs { c with kind := 1 } idxI out ch () := by
  unfold Gen.jaccarddist_matrix Gen.jaccarddist_matrix.run
  simp only [py_eval, hk, decide_false, Bool.not_false, Nat.le_refl, decide_true, Bool.not_true]

/-- what the loops of `jaccarddist_matrix` keep fixed, and the buffer -/
def MatInv (qs : List Py.Arr) (c : Py.Sigs) (idxI : Option (List Int)) (N : Nat) (s : Gen.jaccarddist_matrix.St)
    (rows : List (List UInt32)) : Prop :=
  s.queries = qs ∧ s.refs = c ∧ s.ref_indices = idxI ∧ s.out = some { okDtype := true, shape := [qs.length, N], rows := rows }
    ∧ rows.length = qs.length ∧ ∀ row ∈ rows, row.length = N

/-- the slices the outer loop runs over -/
def slicesOf (N : Nat) : Option Nat → List (Nat × Nat)
  | none => [(0, N)]
  | some k => chunkSlices N k

/-- one iteration of the inner loop, without the state: `out[i, a:b] = jaccarddist_array(query, ref_chunk, out[i, a:b])` writes the distances
of the query to the chunk into row `i` from column `a` on -/
theorem row_step (qa : Py.Arr) (chunk : Py.Sigs) (out : Py.ND) (i a b : Nat) (row : List UInt32)
    (hqa : qa.dtype.kernelOk = true) (hcd : chunk.dtype.kernelOk = true) (hod : out.okDtype = true)
    (hrow : out.rows[i]? = some row) (hlen : chunk.items.length = min b row.length - a) :
    ∃ w, Gen.jaccarddist_array qa chunk (some (out.rowView (i : Int) (a : Int) (b : Int))) = .ok w
      ∧ out.putRow (i : Int) (a : Int) (b : Int) w
          = { out with rows := out.rows.set i (writeSlice row a (arrayDists kdist qa.natVals (Py.Sigs.nat chunk))) } := by
  have hv : out.rowView (i : Int) (a : Int) (b : Int) = { okDtype := true, shape := [(slc row a b).length], rows := [slc row a b] } := by
    simp only [Py.ND.rowView, Py.getItem?_nat, hrow, Option.getD_some, TieBulk.slice_eq_slc, hod]
  have hsl : (slc row a b).length = chunk.items.length := by rw [length_slc, hlen]
  refine ⟨_, by rw [hv]; exact array_some qa chunk _ (slc row a b) hqa hcd rfl (by rw [hsl]) rfl hsl, ?_⟩
  simp only [Py.ND.putRow, Py.getItem?_nat, hrow, Option.getD_some, TieBulk.putSlice_eq_writeSlice, Py.listSet_nat,
    Py.ND.vals1, List.headD_cons, arrayDists]

/-- for a collection that is already wrapped (`1 ≤ kind`); the outer loop keeps `MatInv`, the inner one `MatInv` and the current slice and chunk -/
theorem matrix_core (qs : List Py.Arr) (c : Py.Sigs) (hq : ∀ q ∈ qs, q.dtype.kernelOk = true) (hc : c.dtype.kernelOk = true)
    (hk : 1 ≤ c.kind)
    (idx : Option (List Nat)) (hidx : ∀ l, idx = some l → ∀ j ∈ l, j < c.items.length)
    (chunk : Option Nat) (hch : ∀ k, chunk = some k → 0 < k) :
    ∃ r, Gen.jaccarddist_matrix qs c (idx.map (fun l => l.map (fun (j : Nat) => (j : Int)))) none (chunk.map (fun (k : Nat) => (k : Int))) () = .ok r
      ∧ r.okDtype = true
      ∧ r.rows = matrixModel kdist (qs.map (·.natVals)) (Py.Sigs.nat c) idx chunk
          (List.replicate qs.length (List.replicate (idx.getD (List.range c.items.length)).length 0)) := by
  generalize hI : idx.map (fun l => l.map (fun (j : Nat) => (j : Int))) = idxI
  unfold Gen.jaccarddist_matrix Gen.jaccarddist_matrix.run
  simp only [py_eval, hk, decide_true, Bool.not_true, Option.isNone_none, nrefs_eq c idx idxI hI]
  generalize hN : (idx.getD (List.range c.items.length)).length = N
  generalize hif : (ite ((Option.map (fun (k : Nat) => (k : Int)) chunk).isNone = true) _ _) = e
  obtain ⟨s1, rfl, hs1, hsl⟩ : ∃ s1, e = .ok s1 ∧ MatInv qs c idxI N s1 (List.replicate qs.length (List.replicate N 0))
      ∧ s1.ref_slices = (slicesOf N chunk).map (fun ab => ((ab.1 : Int), (ab.2 : Int))) := by
    subst hif
    have hinv : ∀ (s : Gen.jaccarddist_matrix.St), s.queries = qs → s.refs = c → s.ref_indices = idxI →
        s.out = some (Py.ND.empty [(qs.length : Int), (N : Int)]) →
        MatInv qs c idxI N s (List.replicate qs.length (List.replicate N 0)) := by
      intro s h1 h2 h3 h4
      refine ⟨h1, h2, h3, by rw [h4]; simp [Py.ND.empty], by simp, ?_⟩
      intro row hrow
      rw [(List.mem_replicate.1 hrow).2, List.length_replicate]
    cases chunk with
    | none => exact ⟨_, rfl, hinv _ rfl rfl rfl rfl, rfl⟩
    | some k =>
      simp only [py_eval, Option.map_some, Option.isNone_some, Option.getD_some, chunk_slices_eq N k (hch k rfl)]
      exact ⟨_, rfl, hinv _ rfl rfl rfl rfl, rfl⟩
  simp only [py_eval, hsl]
  generalize hw : Py.forEach _ _ _ = w
  have hsim := Py.forEach_sim hw (MatInv qs c idxI N)
    (fun rows x => matrixChunk kdist (qs.map (·.natVals)) (selSigs c (idx.getD (List.range c.items.length)) x.1.toNat x.2.toNat) x.1.toNat rows)
    ?_ hs1
  · obtain ⟨s', rfl, -, -, -, hout, -, -⟩ := hsim
    simp only [py_eval, hout, Option.isNone_some, Option.getD_some]
    refine ⟨_, rfl, rfl, ?_⟩
    unfold matrixModel
    simp only [nat_length, hN, List.foldl_map, Int.toNat_natCast]
    cases chunk <;> rfl
  · intro x hx s rows ⟨h1, h2, h3, h4, h5, h6⟩
    obtain ⟨⟨a, b⟩, -, rfl⟩ := List.mem_map.1 hx
    obtain ⟨chk, hget, hdt, hnat, hlen⟩ := chunk_spec c idx hidx idxI hI a b
    rw [hN] at hlen
    simp only [h1, h2, h3, hget, Option.isNone_some, Py.guard_false, Option.getD_some]
    generalize hw2 : Py.forEach _ _ _ = w2
    have hsim2 := Py.forEach_sim hw2
      (fun s rows => MatInv qs c idxI N s rows ∧ s.ref_slice = ((a : Int), (b : Int)) ∧ s.ref_chunk = chk)
      (TieBulk.setAt (fun (qa : Py.Arr) row => writeSlice row a (arrayDists kdist qa.natVals (Py.Sigs.nat chk))))
      ?_ (b := rows) ⟨⟨rfl, rfl, rfl, h4, h5, h6⟩, rfl, rfl⟩
    · obtain ⟨s2, rfl, hR2, -, -⟩ := hsim2
      refine ⟨_, .inl rfl, ?_⟩
      rw [TieBulk.foldl_enum_set _ qs rows h5] at hR2
      rw [matrixChunk_eq_zipWith kdist _ _ _ rows (by rw [h5, List.length_map]), List.zipWith_map_left, Int.toNat_natCast,
        Int.toNat_natCast, ← hnat]
      exact hR2
    · intro x hx s rows ⟨⟨g1, g2, g3, g4, g5, g6⟩, g7, g8⟩
      obtain ⟨i, hlt, rfl⟩ := Py.mem_enumerate qs x hx
      obtain ⟨row, hrow⟩ : ∃ r, rows[i]? = some r := ⟨_, List.getElem?_eq_getElem (by rw [g5]; exact hlt)⟩
      have hrl : row.length = N := g6 row (List.mem_of_getElem? hrow)
      obtain ⟨w4, hw4, hput⟩ := row_step qs[i] chk { okDtype := true, shape := [qs.length, N], rows := rows } i a b row
        (hq _ (List.getElem_mem hlt)) (by rw [hdt]; exact hc) rfl hrow (by rw [hrl]; exact hlen)
      simp only [py_eval, g4, g7, g8, Option.getD_some, Py.getItem?_nat, hrow, Option.isNone_some, hw4, hput]
      refine ⟨_, .inl rfl, ⟨g1, g2, g3, ?_, ?_, ?_⟩, rfl, rfl⟩
      · rw [TieBulk.setAt_nat _ rows i _ row hrow]
      · rw [TieBulk.setAt_length, g5]
      · rw [TieBulk.setAt_nat _ rows i _ row hrow]
        intro r hr
        rcases List.mem_or_eq_of_mem_set hr with hr | rfl
        · exact g6 r hr
        · rw [length_writeSlice, hrl]
          rw [hrl]; simp only [arrayDists, List.length_map, Py.Sigs.nat, hlen]
          exact Nat.sub_le_sub_right (Nat.min_le_right _ _) _

/-- `jaccarddist_matrix` (no caller buffer) = the model `matrixModel`: any chunk size, any index selection -/
theorem jaccarddist_matrix_eq (qs : List Py.Arr) (c : Py.Sigs) (hq : ∀ q ∈ qs, q.dtype.kernelOk = true) (hc : c.dtype.kernelOk = true)
    (idx : Option (List Nat)) (hidx : ∀ l, idx = some l → ∀ j ∈ l, j < c.items.length)
    (chunk : Option Nat) (hch : ∀ k, chunk = some k → 0 < k) :
    ∃ r, Gen.jaccarddist_matrix qs c (idx.map (fun l => l.map (fun (j : Nat) => (j : Int)))) none (chunk.map (fun (k : Nat) => (k : Int))) () = .ok r
      ∧ r.okDtype = true
      ∧ r.rows = matrixModel kdist (qs.map (·.natVals)) (Py.Sigs.nat c) idx chunk
          (List.replicate qs.length (List.replicate (idx.getD (List.range c.items.length)).length 0)) := by
  by_cases hk : 1 ≤ c.kind
  · exact matrix_core qs c hq hc hk idx hidx chunk hch
  · rw [matrix_kind qs c _ _ _ hk]
    exact matrix_core qs { c with kind := 1 } hq hc (Nat.le_refl 1) idx hidx chunk hch

/-- PROPERTY (C05) of the translated code: cell (i, j) is the two-signature distance of query i and reference idx[j] -/
theorem py_matrix_cells (qs : List Py.Arr) (c : Py.Sigs) (hq : ∀ q ∈ qs, q.dtype.kernelOk = true) (hc : c.dtype.kernelOk = true)
    (idx : Option (List Nat)) (hidx : ∀ l, idx = some l → ∀ j ∈ l, j < c.items.length)
    (chunk : Option Nat) (hch : ∀ k, chunk = some k → 0 < k) :
    ∃ r, Gen.jaccarddist_matrix qs c (idx.map (fun l => l.map (fun (j : Nat) => (j : Int)))) none (chunk.map (fun (k : Nat) => (k : Int))) () = .ok r
      ∧ r.rows = qs.map (fun q => (idx.getD (List.range c.items.length)).map (fun j => kdist q.natVals ((Py.Sigs.nat c).getD j default))) := by
  obtain ⟨r, h1, -, h3⟩ := jaccarddist_matrix_eq qs c hq hc idx hidx chunk hch
  refine ⟨r, h1, ?_⟩
  rw [h3, C05.matrix_cells kdist _ (Py.Sigs.nat c) idx chunk hch _ (by simp)
    (by intro row hrow; rw [(List.mem_replicate.1 hrow).2, List.length_replicate, nat_length]), List.map_map, nat_length]
  rfl

/-! ### non-vacuity (`unionCount` is defined by well-founded recursion, so the value examples go through the kernel evaluator) -/

-- packed array (the fused kernel) and a plain list (the loop), the second with a pre-filled buffer
example : Gen.jaccarddist_array ⟨⟨'u', 8, true⟩, [1, 2, 3]⟩ ⟨2, ⟨'u', 4, true⟩, [[2, 3, 4], [], [1, 2, 3]]⟩ none
    = .ok ⟨true, [3], [[0x3F000000, 0x3F800000, 0]]⟩ := by decide +kernel
example : Gen.jaccarddist_array ⟨⟨'u', 8, true⟩, [1, 2, 3]⟩ ⟨0, ⟨'u', 4, true⟩, [[2, 3, 4], [], [1, 2, 3]]⟩ (some ⟨true, [3], [[7, 7, 7]]⟩)
    = .ok ⟨true, [3], [[0x3F000000, 0x3F800000, 0]]⟩ := by decide +kernel
example : Gen.jaccarddist_array ⟨⟨'u', 8, true⟩, [1, 2, 3]⟩ ⟨0, ⟨'u', 4, true⟩, [[2, 3, 4], []]⟩ (some ⟨true, [3], [[7, 7, 7]]⟩)
    = .raised .ValueError := by decide +kernel
-- 2 queries × 3 references, `ref_indices = [2, 0, 0, 1]` (repeat, out of order), `chunksize = 3` (the last chunk clamped)
example : Gen.jaccarddist_matrix [⟨⟨'u', 8, true⟩, [1, 2, 3]⟩, ⟨⟨'u', 2, true⟩, []⟩] ⟨2, ⟨'u', 4, true⟩, [[2, 3, 4], [], [1, 2, 3]]⟩
      (some [2, 0, 0, 1]) none (some 3) ()
    = .ok ⟨true, [2, 4], [[0, 0x3F000000, 0x3F000000, 0x3F800000], [0x3F800000, 0x3F800000, 0x3F800000, 0]]⟩ := by decide +kernel
example : matrixModel kdist [[1, 2, 3], []] [[2, 3, 4], [], [1, 2, 3]] (some [2, 0, 0, 1]) (some 3) [[9, 9, 9, 9], [9, 9, 9, 9]]
    = [[0, 0x3F000000, 0x3F000000, 0x3F800000], [0x3F800000, 0x3F800000, 0x3F800000, 0]] := by decide +kernel

end GambitV.Tie.Py
