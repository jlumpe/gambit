import GambitV.Gen.PyHdf5Reader

/-!
Tie: what `HDF5Signatures.__init__` checks and reads when a signature file is opened, read off the *current* source by harness/pytrace.py on
every run — the reader side of the file model (`Model/SigFile.lean`; the writer side is the storage-call trace of `Tie/PyHdf5.lean`): the
format marker is checked first and a group without it refused with the dedicated error, then the version; the k-mer parameters, metadata,
`values`, `bounds` and `ids` are read from the attributes and datasets the writer's trace creates under the same names; string IDs are decoded.
Together with `Tie/PyClassFacts.lean` (no indexing method overridden) and `Tie/PyGetitem.lean` this is what "for every index, slice or index list,
the same signatures" of C12 rests on for a loaded file.
-/
namespace GambitV.Tie.Py

theorem reader_structural_facts :
    Gen.pyReader_marker = true ∧ Gen.pyReader_version = true ∧ Gen.pyReader_kmerspec = true ∧ Gen.pyReader_meta = true
      ∧ Gen.pyReader_datasets = true ∧ Gen.pyReader_ids = true ∧ Gen.pyReader_order = true := by
  decide

end GambitV.Tie.Py
