import GambitV.Gen.PyReportable
import GambitV.Lemmas.PyRt

/-!
Tie: the generated translation of `reportable_taxon` (`gambit/db/models.py`) equals the hand-written model
`reportable` of `Model/Taxonomy.lean`.
-/
namespace GambitV.Tie.Py
open GambitV GambitV.Py

theorem reportable_taxon_eq (F : Forest) (t : Option Nat) :
    Gen.reportable_taxon F t = .ok (reportable F t) := by
  unfold Gen.reportable_taxon Gen.reportable_taxon.run
  cases t with
  | none =>
    simp only [Option.isNone_none, py_eval, reportable]
  | some t =>
    simp only [Option.isNone_some, py_eval, Option.getD_some, reportable]
    generalize hw : Py.forEach _ _ _ = w
    rcases forEach_findRet hw (fun _ => True) (fun a => F.reportOf a) (fun a => some a)
        (by intro x s _ hp; simp only [hp, if_true])
        (by
          intro x s _ hp
          refine ⟨{ s with t := x }, ?_, trivial⟩
          simp only [hp, Bool.false_eq_true, if_false])
        trivial with ⟨a, hf, rfl⟩ | ⟨hf, s', rfl, _⟩
    · simp only [hf, py_eval]
    · simp only [hf, py_eval]

/-! non-vacuity: the generated function evaluated on a concrete forest -/

/-- `0 ← 1 ← 3`, `0 ← 2`, `4` isolated; nodes 1, 3 and 4 are not reportable -/
def demoForestR : Forest :=
  { parent := [none, some 0, some 0, some 1, none], thr := [some 5, some 3, some 3, none, some 2],
    report := [true, false, true, false, false] }

example : Gen.reportable_taxon demoForestR (some 3) = .ok (some 0) := by decide
example : Gen.reportable_taxon demoForestR (some 2) = .ok (some 2) := by decide
example : Gen.reportable_taxon demoForestR (some 4) = .ok none := by decide
example : Gen.reportable_taxon demoForestR none = .ok none := by decide

end GambitV.Tie.Py
