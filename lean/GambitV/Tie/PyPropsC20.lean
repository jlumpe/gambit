import GambitV.Tie.PyCheckIndex
import GambitV.Props.C20

/-!
Property-level statements about the definitions translated from the current Python sources (`GambitV.Gen.*`, regenerated on every run):
the tie theorems composed with the property theorems of `Props/`.  C20: index checking.
-/
namespace GambitV.Tie.Py
open GambitV

/-- the translated `_check_index` accepts exactly `-n ≤ i < n` and returns the non-negative position -/
theorem py_check_index_spec (n : Nat) (i : Int) :
    (Gen.check_index (n : Int) i = .raised .IndexError ∧ ¬(-(n : Int) ≤ i ∧ i < n))
    ∨ (∃ j : Nat, Gen.check_index (n : Int) i = .ok (j : Int) ∧ j < n ∧ ((j : Int) = i ∨ (j : Int) = i + n) ∧ -(n : Int) ≤ i ∧ i < n) := by
  rw [check_index_eq]
  cases hci : checkIndex n i with
  | error e =>
    left
    have := (C20.checkIndex_error n i e hci).2
    exact ⟨rfl, by omega⟩
  | ok j =>
    right
    have := (C20.checkIndex_ok_iff n i j).1 hci
    exact ⟨j, rfl, by omega, by omega, by omega, by omega⟩

end GambitV.Tie.Py
