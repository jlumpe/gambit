import GambitV.Gen.PySigArrayInit

/-!
Tie (structural facts): how the two in-memory collections are built (the packed one: bounds = running sum, signature i copied into its slice
— the per-signature write path `writeSlices`, which yields the concatenation by `C12.writeSlices_eq`; the list-backed one: the list itself), as it stands
in the current source. Each fact says that one function consists of exactly the expected statements, one class has exactly the expected
shape, or one constant the expected value (harness/flow_facts.json; compared as normalised `ast` text by harness/pytrace.py on every run);
reading these as the models do is part of the trusted base (DESIGN §3).
-/
namespace GambitV.Tie.Py
open GambitV

theorem sigarray_init_facts :
    Gen.pySigArrayInit_uninit = true ∧ Gen.pySigArrayInit_initFromArrays = true ∧ Gen.pySigArrayInit_init = true ∧ Gen.pySigArrayInit_fromArrays = true ∧ Gen.pySigArrayInit_uninitialized = true ∧ Gen.pySigArrayInit_listInit = true := by decide

end GambitV.Tie.Py
