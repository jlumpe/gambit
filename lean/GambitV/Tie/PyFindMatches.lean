import GambitV.Gen.PyFindMatches
import GambitV.Tie.PyMatching
import GambitV.Lemmas.TiePyClassify

/-!
Tie: the generated (state-passing) translation of `find_matches` (classify.py) equals the
hand-written model `findMatches` (genome indices as Python ints).
-/
namespace GambitV.Tie.Py
open GambitV GambitV.Py

abbrev FSt := Gen.find_matches.St

/-- effect of one iteration of `for i, (g, d) in enumerate(itr)` on the state -/
def fmIter (F : Forest) (G : List Nat) (s : FSt) (x : Int × Nat × Nat) : FSt :=
  { itr := s.itr
    matches_ := (match matchingTaxon F (G.getD x.2.1 0) x.2.2 with
      | some t => dictAppend s.matches_ t x.1
      | none => s.matches_)
    i := x.1, g := x.2.1, d := x.2.2
    match_ := matchingTaxon F (G.getD x.2.1 0) x.2.2 }

/-- the `matches` dict after the loop only depends on the `matches` dict before it -/
theorem matches_foldl_fmIter (F : Forest) (G : List Nat) (l : List (Int × Nat × Nat)) (s : FSt) :
    (l.foldl (fmIter F G) s).matches_ = l.foldl (fun acc x =>
      match matchingTaxon F (G.getD x.2.1 0) x.2.2 with
      | some t => dictAppend acc t x.1
      | none => acc) s.matches_ :=
  (List.foldl_hom (fun s : FSt => s.matches_) (fun _ _ => rfl)).symm

/-- values cast to Python ints -/
abbrev castE (e : Nat × List Nat) : Nat × List Int := (e.1, e.2.map (fun (i : Nat) => (i : Int)))

/-- the fold of the generated loop is the cast of the fold of the model -/
theorem foldl_cast (m : Nat → Option Nat) (l : List Nat) (acc : List (Nat × List Nat)) :
    l.foldl (fun (acc : List (Nat × List Int)) (i : Nat) =>
      match m i with
      | some t => dictAppend acc t (i : Int)
      | none => acc) (acc.map castE)
    = (l.foldl (fun acc i =>
      match m i with
      | some t => dictAppend acc t i
      | none => acc) acc).map castE := by
  refine List.foldl_hom (List.map castE) fun acc i => ?_
  cases m i with
  | none => rfl
  | some t => exact dictAppend_map (fun (i : Nat) => (i : Int)) acc t i

theorem find_matches_eq (F : Forest) (gtax ds : List Nat) (h : ds.length = gtax.length) :
    Gen.find_matches F gtax ((List.range gtax.length).zip ds)
      = .ok ((findMatches F gtax ds).map (fun e => (e.1, e.2.map (fun (i : Nat) => (i : Int))))) := by
  unfold Gen.find_matches Gen.find_matches.run
  dsimp only
  rw [forEach_ok (f := fmIter F gtax)]
  case h =>
    intro x s
    simp only [matching_taxon_eq, call_ok, bind, Except.bind, pure, Except.pure, fmIter]
    cases matchingTaxon F (gtax.getD x.2.1 0) x.2.2 <;> rfl
  simp only [bind, Except.bind, throw, throwThe, MonadExceptOf.throw, finish_ret]
  rw [matches_foldl_fmIter, enumerate_zip_range ds gtax.length h, List.foldl_map,
    findMatches_eq_dictFold]
  exact congrArg Res.ok (foldl_cast _ _ [])

/-! non-vacuity: the generated function evaluated on a concrete forest -/

/-- genomes 0..4 belong to taxa 3, 2, 3, 4, 1 -/
example : Gen.find_matches demoForest [3, 2, 3, 4, 1] ((List.range 5).zip [3, 9, 1, 2, 4])
    = .ok [(1, [0, 2]), (4, [3]), (0, [4])] := by decide

example : findMatches demoForest [3, 2, 3, 4, 1] [3, 9, 1, 2, 4]
    = [(1, [0, 2]), (4, [3]), (0, [4])] := by decide

end GambitV.Tie.Py
