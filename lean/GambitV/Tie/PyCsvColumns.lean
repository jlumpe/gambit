import GambitV.Gen.PyCsvColumns
import GambitV.Model.Export

/-!
Tie: the column table of the CSV exporter as it stands in the *current* source (`CSVResultsExporter.COLUMNS`, read by
harness/pytrace.py on every run) against the model's columns (`csvHeader`, `csvRow` in `Model/Export.lean`): the same names in the same
order, and every attribute path denotes the field the model puts in that cell (`None` anywhere along a path ↦ empty cell, which is what
`getattr_nested(…, pass_none=True)` does).  Core Lean only.
-/
namespace GambitV.Tie.Py
open GambitV

/-- the cell an attribute path of the exporter denotes on the model's item record (`none` = a path the model does not know) -/
def pathCell (it : ItemRec) : String → Option (List Char)
  | "input.label" => some it.label
  | "report_taxon.name" => some (optCell (it.report.map (·.name)))
  | "report_taxon.rank" => some (optCell (it.report.bind (·.rank)))
  | "report_taxon.ncbi_id" => some (optCell (it.report.bind (·.ncbiId)))
  | "report_taxon.distance_threshold" => some (optCell (it.report.bind (·.threshold)))
  | "classifier_result.closest_match.distance" => some it.closestMatch.distanceText
  | "classifier_result.closest_match.genome.description" => some it.closestMatch.genome.description
  | "classifier_result.next_taxon.name" => some (optCell (it.next.map (·.name)))
  | "classifier_result.next_taxon.rank" => some (optCell (it.next.bind (·.rank)))
  | "classifier_result.next_taxon.ncbi_id" => some (optCell (it.next.bind (·.ncbiId)))
  | "classifier_result.next_taxon.distance_threshold" => some (optCell (it.next.bind (·.threshold)))
  | _ => none

/-- the header the source's table gives is the model's header -/
theorem csv_header_eq : Gen.pyCsvColumns.map (fun c => c.1.toList) = csvHeader := rfl

/-- every row the source's table gives is the model's row, for every item -/
theorem csv_row_eq (it : ItemRec) : Gen.pyCsvColumns.map (fun c => pathCell it c.2) = (csvRow it).map some := by
  simp [Gen.pyCsvColumns, pathCell, csvRow]

theorem csv_structural_facts : Gen.pyCsvHeaderIsNames = true ∧ Gen.pyCsvRowIsPaths = true := by decide

end GambitV.Tie.Py
