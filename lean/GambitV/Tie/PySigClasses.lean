import GambitV.Gen.PySigClasses

/-!
Tie (structural facts): the shape of `SignaturesMeta` and `SequenceFile`, as it stands in the current source.  Each fact says that one function consists of exactly the expected
statements, one class has exactly the expected shape, or one constant the expected value (harness/flow_facts.json; compared as normalised `ast`
text by harness/pytrace.py on every run); reading these as the models do is part of the trusted base (DESIGN §3).
-/
namespace GambitV.Tie.Py

theorem sig_classes_facts :
    Gen.pySigClasses_signaturesMeta = true ∧ Gen.pySigClasses_sequenceFile = true := by decide

end GambitV.Tie.Py
