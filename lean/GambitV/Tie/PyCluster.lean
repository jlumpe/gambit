import GambitV.Gen.PyCluster
import GambitV.Props.C17
import GambitV.Lemmas.PyRt
import GambitV.Lemmas.TiePyCluster

/-!
Tie: the generated translation of `linkage_to_bio_tree` (gambit/cluster.py) equals the hand-written model `linkageToTree` /
`buildClades` of `Model/Cluster.lean`, read through `pyClade` (the Biopython clade of a model clade).

The generated body is two `for` loops.  The first appends one leaf clade per label; the second, for every linkage row, reads the two
child clades, sets the branch lengths of (copies of) them to `row height − child height` and appends the new clade.  Both are passed
with `Py.finish_bind_loop` and `Py.forEach_idx_inv` under an invariant indexed by the iteration number; after `r` rows the clade list is the image of the
model's list after `r` rows (`buildPrefix`), every clade of the list having no branch length (the children are modified copies, in the
translation as in the model).  The only facts proved against the generated term are the per-iteration ones.

`linkage_to_bio_tree_gen` needs only: as many labels as rows + 1, non-negative child indices, and both children of row `r` existing
already (`< n + r`).  `ValidLinkage` (which also asks for distinct children, every cluster merged once and monotone heights) implies
that; the three stated theorems are corollaries.
-/
namespace GambitV.Tie.Py
open GambitV GambitV.Gen GambitV.TieClu

/-- the rows of the SciPy linkage matrix as the translated function receives them (left, right, height, size) → model rows -/
def toLinkRows (rows : List (Int × Int × Int × Int)) : List LinkRow := rows.map fun x => ⟨x.1.toNat, x.2.1.toNat, x.2.2.1⟩

/-- the Biopython clade of a model clade whose own branch length is `bl` (`none` for the root: never assigned) -/
def pyClade (labels : List Nat) : Option Int → Clade → Py.Clade
  | bl, .leaf l _ => { name := some (labels.getD l 0), branch_length := bl, clades := [] }
  | bl, .node a b _ => { name := none, branch_length := bl, clades := [pyClade labels (some a.len) a, pyClade labels (some b.len) b] }

/-! ### `pyClade` and the model's loop step -/

/-- `pyClade` does not read the clade's own length -/
theorem pyClade_setLen (labels : List Nat) (bl : Option Int) (c : Clade) (x : Int) :
    pyClade labels bl (c.setLen x) = pyClade labels bl c := by
  cases c <;> rfl

/-- assigning `branch_length` on (a copy of) the image of a clade -/
theorem pyClade_with_bl (labels : List Nat) (bl bl' : Option Int) (c : Clade) :
    { pyClade labels bl c with branch_length := bl' } = pyClade labels bl' c := by
  cases c <;> rfl

theorem toLinkRows_length (rows : List (Int × Int × Int × Int)) : (toLinkRows rows).length = rows.length := by
  unfold toLinkRows
  rw [List.length_map]

theorem toLinkRows_getElem (rows : List (Int × Int × Int × Int)) (i : Nat) (h : i < rows.length) :
    (toLinkRows rows)[i]'(by rw [toLinkRows_length]; exact h) = ⟨rows[i].1.toNat, rows[i].2.1.toNat, rows[i].2.2.1⟩ := by
  unfold toLinkRows
  rw [List.getElem_map]

/-- the image of the model's clade list after one more row -/
theorem map_cladeStep (labels : List Nat) (n : Nat) (link : List LinkRow) (cl : List Clade) (row : LinkRow) :
    (cladeStep n link cl row).map (pyClade labels none) = cl.map (pyClade labels none) ++
      [({ name := none, branch_length := none,
          clades := [{ pyClade labels none (cl.getD row.left (.leaf 0 0)) with
                        branch_length := some (row.height - nodeHeight n link row.left) },
                     { pyClade labels none (cl.getD row.right (.leaf 0 0)) with
                        branch_length := some (row.height - nodeHeight n link row.right) }] } : Py.Clade)] := by
  unfold cladeStep
  simp only [List.map_append, List.map_cons, List.map_nil, pyClade, Clade.setLen_len, pyClade_setLen, pyClade_with_bl]

/-- the image of the model's initial clade list: one leaf per label -/
theorem map_leaves_take (labels : List Nat) (i : Nat) (hi : i ≤ labels.length) :
    ((List.range i).map (fun j => Clade.leaf j 0)).map (pyClade labels none)
      = (labels.take i).map (fun x => ({ name := some x, branch_length := none, clades := [] } : Py.Clade)) := by
  apply List.ext_getElem
  · simp only [List.length_map, List.length_range, List.length_take]
    omega
  · intro j h1 h2
    have hj : j < i := by simpa using h1
    have hj' : j < labels.length := by omega
    simp only [List.getElem_map, List.getElem_range, List.getElem_take, pyClade, List.getD_eq_getElem?_getD,
      List.getElem?_eq_getElem hj', Option.getD_some]

/-! ### the two loops -/

/-- after `i` labels: one leaf clade per label seen -/
def LeafInv (n : Nat) (rows : List (Int × Int × Int × Int)) (labels : List Nat) (i : Nat) (s : linkage_to_bio_tree.St) : Prop :=
  s.link = rows ∧ s.nleaves = (n : Int) ∧
    s.clades = (labels.take i).map (fun x => ({ name := some x, branch_length := none, clades := [] } : Py.Clade))

/-- after `i` rows: the image of the model's clade list after `i` rows -/
def RowInv (n : Nat) (rows : List (Int × Int × Int × Int)) (labels : List Nat) (i : Nat) (s : linkage_to_bio_tree.St) : Prop :=
  s.link = rows ∧ s.nleaves = (n : Int) ∧
    s.clades = (buildPrefix n (toLinkRows rows) ((toLinkRows rows).take i)).map (pyClade labels none)

/-- The translated function returns the image of the model tree whenever there are `rows + 1` labels, the child indices are
non-negative and both children of row `r` exist already (`< n + r`). -/
theorem linkage_to_bio_tree_gen (n : Nat) (rows : List (Int × Int × Int × Int)) (labels : List Nat)
    (hnn : ∀ x ∈ rows, 0 ≤ x.1 ∧ 0 ≤ x.2.1) (hn : n = rows.length + 1) (hl : labels.length = n)
    (hidx : ∀ r (h : r < rows.length), rows[r].1.toNat < n + r ∧ rows[r].2.1.toNat < n + r) :
    ∃ t, linkageToTree n (toLinkRows rows) = some t ∧ Gen.linkage_to_bio_tree rows labels = .ok (pyClade labels none t) := by
  have hn1 : 1 ≤ n := hn ▸ Nat.le_add_left 1 _
  refine ⟨_, linkageToTree_eq n _ hn1, ?_⟩
  have hnI : (rows.length : Int) + 1 = (n : Int) := by rw [hn, Int.natCast_add]; rfl
  have hg : decide ((labels.length : Int) = (n : Int)) = true := decide_eq_true (by rw [hl])
  unfold Gen.linkage_to_bio_tree linkage_to_bio_tree.run
  simp only [py_eval, hnI, hg, Bool.not_true]
  -- first loop
  refine Py.finish_bind_loop _ (Py.forEach_idx_inv rfl (LeafInv n rows labels) ?_ ⟨rfl, rfl, rfl⟩) ?_
  · rintro i hi s ⟨h1, h2, h3⟩ r rfl
    refine ⟨_, rfl, h1, h2, ?_⟩
    dsimp only
    rw [h3, List.take_succ_eq_append_getElem hi, List.map_append]
    rfl
  rintro s1 ⟨h1, h2, h3⟩
  rw [← map_leaves_take labels labels.length (Nat.le_refl _), hl] at h3
  -- second loop
  simp only [h1]
  refine Py.finish_bind_loop _ (Py.forEach_idx_inv rfl (RowInv n rows labels) ?_ ⟨h1, h2, h3⟩) ?_
  · rintro i hi s ⟨h1, h2, h3⟩ r rfl
    have hi' : i < (toLinkRows rows).length := by rw [toLinkRows_length]; exact hi
    have hx := hnn rows[i] (List.getElem_mem _)
    have hix := hidx i hi
    have hcl : (buildPrefix n (toLinkRows rows) ((toLinkRows rows).take i)).length = n + i := by
      rw [buildPrefix_length, List.length_take, toLinkRows_length, Nat.min_eq_left (Nat.le_of_lt hi)]
    have e := fun j hj hlt => getItem?_map_nonneg (pyClade labels none)
      (buildPrefix n (toLinkRows rows) ((toLinkRows rows).take i)) (.leaf 0 0) j hj (hcl ▸ hlt)
    have g := height_guard n i rows (Nat.le_of_lt hi)
    have hh := height_lookup n rows (fun x => ⟨x.1.toNat, x.2.1.toNat, x.2.2.1⟩) (fun _ => rfl)
    simp only [h1, h2, h3, e _ hx.1 hix.1, e _ hx.2 hix.2, g _ hx.1 hix.1, g _ hx.2 hix.2, hh _ hx.1, hh _ hx.2,
      Option.isNone_some, Option.getD_some, py_eval]
    refine ⟨_, rfl, rfl, rfl, ?_⟩
    dsimp only
    rw [List.take_succ_eq_append_getElem hi', buildPrefix_snoc, map_cladeStep, toLinkRows_getElem rows i hi]
    rfl
  rintro s2 ⟨-, -, h3⟩
  rw [← toLinkRows_length rows, List.take_length, ← buildClades_eq] at h3
  have hlast : (buildClades n (toLinkRows rows)).getLast?
      = some ((buildClades n (toLinkRows rows)).getD (n + (toLinkRows rows).length - 1) (.leaf 0 0)) :=
    linkageToTree_eq n _ hn1
  simp only [h3, Py.getItem?_neg_one, List.getLast?_map, hlast, Option.map_some, Option.isNone_some, Option.getD_some, py_eval]

/-- what `ValidLinkage` gives for the hypotheses of `linkage_to_bio_tree_gen` -/
theorem valid_idx (n : Nat) (rows : List (Int × Int × Int × Int)) (h : ValidLinkage n (toLinkRows rows) = true) :
    n = rows.length + 1 ∧ ∀ r (h : r < rows.length), rows[r].1.toNat < n + r ∧ rows[r].2.1.toNat < n + r := by
  obtain ⟨h1, h2, h3, -⟩ := validLinkage_iff.1 h
  rw [toLinkRows_length] at h2
  refine ⟨by omega, ?_⟩
  intro r hr
  have := h3 r _ (List.getElem?_eq_getElem (by rw [toLinkRows_length]; exact hr))
  rw [toLinkRows_getElem rows r hr] at this
  exact ⟨this.left_lt, this.right_lt⟩

/-- the translated function on a valid linkage returns the Biopython image of the model tree -/
theorem linkage_to_bio_tree_eq (n : Nat) (rows : List (Int × Int × Int × Int)) (labels : List Nat)
    (hnn : ∀ x ∈ rows, 0 ≤ x.1 ∧ 0 ≤ x.2.1) (h : ValidLinkage n (toLinkRows rows) = true) (hl : labels.length = n) :
    ∃ t, linkageToTree n (toLinkRows rows) = some t ∧ Gen.linkage_to_bio_tree rows labels = .ok (pyClade labels none t) := by
  obtain ⟨hn, hidx⟩ := valid_idx n rows h
  exact linkage_to_bio_tree_gen n rows labels hnn hn hl hidx

/-- wrong number of labels: the assertion fails (no tree is returned) -/
theorem linkage_to_bio_tree_bad_labels (rows : List (Int × Int × Int × Int)) (labels : List Nat)
    (hl : labels.length ≠ rows.length + 1) : Gen.linkage_to_bio_tree rows labels = .raised .AssertionError := by
  have hg : decide ((labels.length : Int) = (rows.length : Int) + 1) = false := by
    simp only [decide_eq_false_iff_not]; omega
  unfold Gen.linkage_to_bio_tree linkage_to_bio_tree.run
  simp only [py_eval, hg, Bool.not_false]

/-- property-level corollary: the returned tree is the image of a model tree whose leaves are exactly the labels' positions,
whose branch lengths are non-negative and which is ultrametric at the last merge height -/
theorem py_linkage_tree_props (n : Nat) (rows : List (Int × Int × Int × Int)) (labels : List Nat)
    (hnn : ∀ x ∈ rows, 0 ≤ x.1 ∧ 0 ≤ x.2.1) (h : ValidLinkage n (toLinkRows rows) = true) (hl : labels.length = n) :
    ∃ t, Gen.linkage_to_bio_tree rows labels = .ok (pyClade labels none t) ∧ t.leaves.Perm (List.range n) ∧ t.nonneg = true ∧
      (∀ p ∈ t.depths, p.2 = (((toLinkRows rows).getLast?.map (·.height)).getD 0)) ∧
      (t.leaves.map (fun l => labels.getD l 0)).Perm labels := by
  obtain ⟨t, ht, hpy⟩ := linkage_to_bio_tree_eq n rows labels hnn h hl
  have hperm := C17.leaves_perm' h t ht
  refine ⟨t, hpy, hperm, C17.branch_nonneg' h t ht, C17.ultrametric' h t ht, ?_⟩
  have := hperm.map (fun l => labels.getD l 0)
  rw [← hl, range_map_getD] at this
  exact this

/-! ### non-vacuity -/

-- the hypotheses hold for four observations merged as (2,3), (0,1), (4,5)
example : ValidLinkage 4 (toLinkRows [(2, 3, 25, 2), (0, 1, 50, 2), (4, 5, 75, 4)]) = true
    ∧ (∀ x ∈ [((2 : Int), (3 : Int), (25 : Int), (2 : Int)), (0, 1, 50, 2), (4, 5, 75, 4)], 0 ≤ x.1 ∧ 0 ≤ x.2.1)
    ∧ [10, 11, 12, 13].length = 4 := by decide

-- the model tree of that linkage and its image
example : linkageToTree 4 (toLinkRows [(2, 3, 25, 2), (0, 1, 50, 2), (4, 5, 75, 4)])
    = some (.node (.node (.leaf 2 25) (.leaf 3 25) 50) (.node (.leaf 0 50) (.leaf 1 50) 25) 0) := by decide

example : (Gen.linkage_to_bio_tree [(2, 3, 25, 2), (0, 1, 50, 2), (4, 5, 75, 4)] [10, 11, 12, 13]
    = .ok (pyClade [10, 11, 12, 13] none (.node (.node (.leaf 2 25) (.leaf 3 25) 50) (.node (.leaf 0 50) (.leaf 1 50) 25) 0))) := by
  obtain ⟨t, ht, hpy⟩ := linkage_to_bio_tree_eq 4 [(2, 3, 25, 2), (0, 1, 50, 2), (4, 5, 75, 4)] [10, 11, 12, 13]
    (by decide) (by decide) rfl
  have : linkageToTree 4 (toLinkRows [(2, 3, 25, 2), (0, 1, 50, 2), (4, 5, 75, 4)])
      = some (.node (.node (.leaf 2 25) (.leaf 3 25) 50) (.node (.leaf 0 50) (.leaf 1 50) 25) 0) := by decide
  rw [this] at ht
  cases ht
  exact hpy

-- a single observation: no rows, the tree is the leaf carrying the label
example : Gen.linkage_to_bio_tree [] [7] = .ok { name := some 7, branch_length := none, clades := [] } := rfl

-- one label too many: the assertion fails; `linkage_to_bio_tree_bad_labels` applies
example : Gen.linkage_to_bio_tree [(1, 0, 3, 2)] [8, 9, 10] = .raised .AssertionError :=
  linkage_to_bio_tree_bad_labels _ _ (by decide)

-- the general form applies where `ValidLinkage` does not hold (a height inversion: row 1 is lower than its child, row 0)
example : ValidLinkage 3 (toLinkRows [(0, 1, 20, 2), (3, 2, 10, 3)]) = false := by decide
example : ∃ t, linkageToTree 3 (toLinkRows [(0, 1, 20, 2), (3, 2, 10, 3)]) = some t
    ∧ Gen.linkage_to_bio_tree [(0, 1, 20, 2), (3, 2, 10, 3)] [5, 6, 7] = .ok (pyClade [5, 6, 7] none t) :=
  linkage_to_bio_tree_gen 3 _ _ (by decide) rfl rfl (by decide)

end GambitV.Tie.Py
