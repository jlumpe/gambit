import GambitV.Gen.PyArchiveReader

/-!
Tie (structural facts): the archive reader as it stands in the current source looks every database object up afresh, by key, within
the genome set found by key and version — the `Db.taxon` / `Db.genome` lookups of `Model/Export.lean` (`archive_roundtrip`).

Each fact says that one function consists of exactly the expected statements (compared as normalised `ast` text by harness/pytrace.py
on every run); reading these statements as the models do is part of the trusted base (DESIGN §3).
-/
namespace GambitV.Tie.Py

theorem archive_reader_facts :
    Gen.pyArchiveReader_init = true ∧ Gen.pyArchiveReader_converter = true ∧ Gen.pyArchiveReader_read = true ∧ Gen.pyArchiveReader_fromJson = true ∧ Gen.pyArchiveReader_genomeset = true ∧ Gen.pyArchiveReader_genome = true ∧ Gen.pyArchiveReader_taxon = true := by decide

end GambitV.Tie.Py
