import GambitV.Gen.PyHdf5Meta

/-!
Tie (structural facts): how the metadata of a signature file are written and read back (`None` <-> empty attribute, the same six names both ways), as it stands in the current source.  Each fact says that one function consists of exactly the expected
statements (harness/flow_facts.json; compared as normalised `ast` text by harness/pytrace.py on every run); reading these statements as the
models do is part of the trusted base (DESIGN §3).
-/
namespace GambitV.Tie.Py

theorem hdf5_meta_facts :
    Gen.pyHdf5Meta_noneToEmpty = true ∧ Gen.pyHdf5Meta_emptyToNone = true ∧ Gen.pyHdf5Meta_writeMetadata = true ∧ Gen.pyHdf5Meta_readMetadata = true ∧ Gen.pyHdf5Meta_dumpSignatures = true := by decide

end GambitV.Tie.Py
