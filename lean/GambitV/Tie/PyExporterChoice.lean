import GambitV.Gen.PyExporterChoice

/-!
Tie (structural facts): which exporter each output format selects, as it stands in the current source.

Each fact says that one function consists of exactly the expected statements (harness/flow_facts.json; compared as normalised `ast`
text by harness/pytrace.py on every run); reading these statements as the models do is part of the trusted base (DESIGN §3).
-/
namespace GambitV.Tie.Py

theorem exporter_choice_facts :
    Gen.pyExporterChoice_getExporter = true := by decide

end GambitV.Tie.Py
