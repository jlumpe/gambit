import GambitV.Gen.PyCalcFile
import GambitV.Tie.PyCalcSig
import GambitV.Props.C06

/-!
Tie of the machine-translated `gambit.sigs.calc.calc_file_signature` (`GambitV.Gen.calc_file_signature`; environment `RECS` = the sequences of the
records `seqfile.parse()` yields, in file order): it is `calc_signature` over exactly those sequences, with the accumulator it was given — so the
signature of a file is the specification list over its records (`py_calc_signature_spec`), which is what the properties of C06 (contig order,
orientation, case, line structure) are stated about.
-/
namespace GambitV.Tie.Py
open GambitV

theorem calc_file_signature_eq (recs : List (List UInt8)) (ks : Py.KSpec) (acc : Option Py.Acc) :
    Gen.calc_file_signature recs ks () acc = Gen.calc_signature ks recs acc := by
  unfold Gen.calc_file_signature Gen.calc_file_signature.run
  cases h : Gen.calc_signature ks recs acc <;> simp only [h, py_eval]

/-- the signature of a file, as the source has it now: the sorted duplicate-free indices of all prefix-anchored k-mers on both strands of
all its records -/
theorem py_file_signature_spec (k : Nat) (pre : List UInt8) (recs : List (List UInt8)) (hk : 1 ≤ k) (hk32 : k ≤ 32) (hp : pre ≠ [])
    (hpre : ∀ b ∈ pre, b ∈ [65, 67, 71, 84]) :
    Gen.calc_file_signature recs { k := (k : Int), pre := pre } () none = .ok ((specList k pre recs).map (fun (x : Nat) => (x : Int))) := by
  rw [calc_file_signature_eq, py_calc_signature_spec k pre recs hk hk32 hp hpre]

/-- the file signature computed by the current source, in the model's terms -/
theorem py_file_signature_model (k : Nat) (pre : List UInt8) (recs : List (List UInt8)) (hk : 1 ≤ k) :
    Gen.calc_file_signature recs { k := (k : Int), pre := pre } () none = .ok ((signature k pre recs).map (fun (x : Nat) => (x : Int))) := by
  rw [calc_file_signature_eq, calc_signature_eq k pre recs hk]

/-- PROPERTY (C06) of the translated code: the file signature does not depend on the order of the records, on the orientation of any of
them, or on letter case -/
theorem py_file_signature_invariant {k : Nat} {pre : List UInt8} (wf : C01.WF k pre) (recs recs' : List (List UInt8))
    (h : recs.Perm recs' ∨ List.Forall₂ (fun a b => b = a ∨ b = revcomp a) recs recs' ∨ List.Forall₂ (fun a b => upper a = upper b) recs recs') :
    Gen.calc_file_signature recs' { k := (k : Int), pre := pre } () none = Gen.calc_file_signature recs { k := (k : Int), pre := pre } () none := by
  rw [py_file_signature_model k pre recs' wf.1, py_file_signature_model k pre recs wf.1]
  rcases h with h | h | h
  · rw [C06.signature_perm wf recs recs' h]
  · rw [C06.signature_revcomp_any wf recs recs' h]
  · rw [C06.signature_case wf recs recs' h]

/-- … and it is the union of the signatures of the records taken one at a time (no k-mer spans two records) -/
theorem py_file_signature_union {k : Nat} {pre : List UInt8} (wf : C01.WF k pre) (recs : List (List UInt8)) :
    Gen.calc_file_signature recs { k := (k : Int), pre := pre } () none
      = .ok ((setAccumulate (recs.flatMap (fun s => signature k pre [s]))).map (fun (x : Nat) => (x : Int))) := by
  rw [py_file_signature_model k pre recs wf.1, C06.signature_union wf recs]

example : Gen.calc_file_signature [[65, 67, 71, 84, 65, 67]] { k := 2, pre := [65] } () none = .ok [6] := by decide +kernel

end GambitV.Tie.Py
