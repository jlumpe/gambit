import GambitV.Gen.PyResultItem
import GambitV.Tie.PyClassify
import GambitV.Tie.PyReportable
import GambitV.Tie.PyMatching
import GambitV.Lemmas.Strict
import GambitV.Props.C09

/-!
Tie of the machine-translated `get_result_item` (`GambitV.Gen.get_result_item`, from gambit/query.py) to the
hand-written models: the classifier result is that of `classifyDefault` / `classifyStrict` (through the tie of
`classify`), the reported taxon is `reportable` of the prediction, and the closest-genomes list is
`closestList ds N` (`np.argsort(dists, kind='stable')[:N]`) with one `GenomeMatch` (`gmOf`) per index.

The loop that builds the list is shown to be a left fold with the clean step `riStep`
(`Py.forEach_fold`, with the invariant "`dists` is unchanged" and the side condition "the index is a
natural number `< ds.length`", which holds for every entry of the argsort), and `foldl_riStep` evaluates that
fold.  Only `get_result_item_of_classify` depends on the shape of the generated term.
-/
namespace GambitV.Tie.Py
open GambitV GambitV.Py GambitV.TieTop GambitV.C09

/-- one iteration of `for i in closest_indices: closest.append(GenomeMatch(...))` -/
def riStep (F : Forest) (gtax ds : List Nat) (s : Gen.get_result_item.St) (x : Int) : Gen.get_result_item.St :=
  { s with i := x, closest := s.closest ++ [gmOf F gtax ds x.toNat] }

/-- the loop appends one entry per index and leaves `clsresult`, `input` alone -/
theorem foldl_riStep (F : Forest) (gtax ds : List Nat) (L : List Nat) (s : Gen.get_result_item.St) :
    let s' := (L.map (fun (i : Nat) => (i : Int))).foldl (riStep F gtax ds) s
    s'.closest = s.closest ++ L.map (gmOf F gtax ds) ∧ s'.clsresult = s.clsresult ∧ s'.input = s.input := by
  induction L generalizing s with
  | nil => exact ⟨(List.append_nil _).symm, rfl, rfl⟩
  | cons i L ih =>
    obtain ⟨h1, h2, h3⟩ := ih (riStep F gtax ds s (i : Int))
    refine ⟨?_, h2, h3⟩
    rw [List.map_cons, List.foldl_cons, h1]
    simp only [riStep, Int.toNat_natCast, List.append_assoc, List.singleton_append, List.map_cons]

/-- `get_result_item`, given the outcome of the call to `classify` -/
theorem get_result_item_of_classify (F : Forest) (gtax ds : List Nat) (h : ds.length = gtax.length)
    (strict : Bool) (cs : Option Int) (N : Nat) (inp : Int) (cr : Py.ClassifierResult)
    (hcls : Gen.classify F gtax (List.range gtax.length) ds strict = .ok cr) :
    Gen.get_result_item F gtax () { classify_strict := strict, chunksize := cs, report_closest := (N : Int) } ds inp
      = .ok { input := inp, classifier_result := cr, report_taxon := reportable F cr.predicted_taxon,
              closest_genomes := (closestList ds N).map (gmOf F gtax ds) } := by
  unfold Gen.get_result_item Gen.get_result_item.run
  simp only [hcls, py_eval, slice_none_nat, ← List.map_take]
  refine finish_bind_loop (fun s' => s'.closest = _ ∧ s'.clsresult = cr ∧ s'.input = inp)
    ⟨_, forEach_fold rfl (fun s => s.dists = ds) (fun x => ∃ i : Nat, x = (i : Int) ∧ i < ds.length)
      (riStep F gtax ds) ?_ ?_ rfl, foldl_riStep F gtax ds ((stableArgsort ds).take N) _⟩ ?_
  · rintro x ⟨db, params, dists, input, closest, cls, i0⟩ ⟨i, rfl, hi⟩ rfl
    have hi' : i < gtax.length := h ▸ hi
    refine ⟨?_, rfl⟩
    simp only [getItem?_range hi', getItem?_getD dists hi, Option.isNone_some, Option.getD_some, py_eval,
      matching_taxon_eq, riStep, gmOf, Int.toNat_natCast]
  · intro x hx
    obtain ⟨i, hi, rfl⟩ := List.mem_map.1 hx
    exact ⟨i, rfl, closestList_lt ds N hi⟩
  · rintro s' ⟨h1, h2, h3⟩
    simp only [h1, h2, h3, reportable_taxon_eq, py_eval, List.nil_append, closestList]

theorem classify_eq (F : Forest) (hF : ForestWF F) (gtax ds : List Nat) (h : ds.length = gtax.length) (hne : ds ≠ [])
    (hT : ∀ t ∈ gtax, t < F.size) (strict : Bool) :
    Gen.classify F gtax (List.range gtax.length) ds strict
      = .ok (resOf F gtax ds (if strict then classifyStrict F gtax ds else classifyDefault F gtax ds)) := by
  cases strict
  · exact classify_default_eq F gtax ds h hne
  · exact classify_strict_eq F hF gtax ds h hne hT

/-- `get_result_item`: the classifier result is that of `classify`, the reported taxon is the first reportable taxon at or above the
prediction, and the closest-genomes list is the `(distance, reference order)`-sorted prefix of length `N`, each entry with its own
distance and the taxon matched by that genome alone. -/
theorem get_result_item_eq (F : Forest) (hF : ForestWF F) (gtax ds : List Nat) (h : ds.length = gtax.length) (hne : ds ≠ [])
    (hT : ∀ t ∈ gtax, t < F.size) (strict : Bool) (cs : Option Int) (N : Nat) (inp : Int) :
    Gen.get_result_item F gtax () { classify_strict := strict, chunksize := cs, report_closest := (N : Int) } ds inp
      = .ok (let m := if strict then classifyStrict F gtax ds else classifyDefault F gtax ds
             { input := inp, classifier_result := resOf F gtax ds m, report_taxon := reportable F m.predicted,
               closest_genomes := (closestList ds N).map (gmOf F gtax ds) }) :=
  get_result_item_of_classify F gtax ds h strict cs N inp _ (classify_eq F hF gtax ds h hne hT strict)

/-- the list is non-empty for N ≥ 1 and its head is the closest match of the classifier result (C09 6. on the translated code) -/
theorem get_result_item_head (F : Forest) (hF : ForestWF F) (gtax ds : List Nat) (h : ds.length = gtax.length) (hne : ds ≠ [])
    (hT : ∀ t ∈ gtax, t < F.size) (strict : Bool) (cs : Option Int) (N : Nat) (hN : 1 ≤ N) (inp : Int) :
    ∃ r, Gen.get_result_item F gtax () { classify_strict := strict, chunksize := cs, report_closest := (N : Int) } ds inp = .ok r
      ∧ r.closest_genomes.head? = some r.classifier_result.closest_match := by
  refine ⟨_, get_result_item_eq F hF gtax ds h hne hT strict cs N inp, ?_⟩
  have hc : (if strict then classifyStrict F gtax ds else classifyDefault F gtax ds).closest = argminFirst ds := by
    cases strict
    · exact classifyDefault_closest F gtax ds
    · exact classifyStrict_closest F gtax ds
  show ((closestList ds N).map (gmOf F gtax ds)).head? = some (gmOf F gtax ds _)
  rw [List.head?_map, C09.closest_head_eq_argmin ds N hne hN, hc]
  rfl

/-! non-vacuity: the generated function and the model on a concrete forest (`demoForest`: `0 ← 1 ← 3`, `0 ← 2`,
`4` isolated; thresholds 5, 3, 3, –, 2), a distance row with a tie between genomes 1 and 2, `N = 2` -/

example : Gen.get_result_item demoForest [3, 2, 3] () { classify_strict := true, chunksize := none, report_closest := 2 }
      [2, 1, 1] 7 =
    .ok { input := 7,
          classifier_result :=
            { success := true, predicted_taxon := some 0,
              primary_match := some { genome := 2, distance := 1, matched_taxon := some 1 },
              closest_match := { genome := 1, distance := 1, matched_taxon := some 2 },
              warnings := ["Query matched ", "Primary genome match is not closest match."], error := none },
          report_taxon := some 0,
          closest_genomes := [{ genome := 1, distance := 1, matched_taxon := some 2 },
                              { genome := 2, distance := 1, matched_taxon := some 1 }] } := by decide +kernel

example : (closestList [2, 1, 1] 2).map (gmOf demoForest [3, 2, 3] [2, 1, 1]) =
      [{ genome := 1, distance := 1, matched_taxon := some 2 }, { genome := 2, distance := 1, matched_taxon := some 1 }]
    ∧ resOf demoForest [3, 2, 3] [2, 1, 1] (classifyStrict demoForest [3, 2, 3] [2, 1, 1]) =
      { success := true, predicted_taxon := some 0,
        primary_match := some { genome := 2, distance := 1, matched_taxon := some 1 },
        closest_match := { genome := 1, distance := 1, matched_taxon := some 2 },
        warnings := ["Query matched ", "Primary genome match is not closest match."], error := none }
    ∧ reportable demoForest (classifyStrict demoForest [3, 2, 3] [2, 1, 1]).predicted = some 0 := by decide +kernel

/-- default mode, the same row: the first of the tied genomes is both the closest match and the head of the list -/
example : Gen.get_result_item demoForest [3, 2, 3] () { classify_strict := false, chunksize := some 5, report_closest := 2 }
      [2, 1, 1] 0 =
    .ok { input := 0,
          classifier_result :=
            { success := true, predicted_taxon := some 2,
              primary_match := some { genome := 1, distance := 1, matched_taxon := some 2 },
              closest_match := { genome := 1, distance := 1, matched_taxon := some 2 },
              warnings := [], error := none },
          report_taxon := some 2,
          closest_genomes := [{ genome := 1, distance := 1, matched_taxon := some 2 },
                              { genome := 2, distance := 1, matched_taxon := some 1 }] } := by decide

private theorem demoForest_wf' : ForestWF demoForest := forestWF_of_check (by decide)

/-- the hypotheses of the theorems are satisfiable (strict mode, a tie, `N = 2`) -/
example : ∃ r, Gen.get_result_item demoForest [3, 2, 3] ()
      { classify_strict := true, chunksize := none, report_closest := ((2 : Nat) : Int) } [2, 1, 1] 7 = .ok r
    ∧ r.closest_genomes.head? = some r.classifier_result.closest_match :=
  get_result_item_head demoForest demoForest_wf' [3, 2, 3] [2, 1, 1] rfl (by decide) (by decide) true none 2
    (by decide) 7

end GambitV.Tie.Py
