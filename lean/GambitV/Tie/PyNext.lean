import GambitV.Gen.PyNext
import GambitV.Lemmas.PyRt
import GambitV.Lemmas.Lineage

/-!
Tie: the generated (state-passing) translation of `GenomeMatch.next_taxon` (classify.py) equals the
hand-written model `nextTaxon`, for a well-formed, non-empty forest (`0 < F.size`, implied by
`G.getD g 0 < F.size`, is needed: see the counterexamples at the end of the file).
-/
namespace GambitV.Tie.Py
open GambitV GambitV.Py

abbrev NSt := Gen.next_taxon.St
abbrev NM := M Gen.next_taxon.St Gen.next_taxon.Ret

/-- `while hi is not None and hi.distance_threshold is None` -/
def condSkip (F : Forest) (s : NSt) : NM Bool :=
  .ok (s.hi.isSome && (F.thrOf (s.hi.getD 0)).isNone)

/-- `hi = hi.parent` -/
def bodySkip (F : Forest) (s : NSt) : NM NSt :=
  .ok { s with hi := F.parentOf (s.hi.getD 0) }

/-- `while hi is not None` -/
def condOuter (s : NSt) : NM Bool := .ok s.hi.isSome

/-- body of the outer loop: return `lo` if `hi` covers the distance, else step and skip -/
def bodyOuter (F : Forest) (s : NSt) : NM NSt :=
  if F.covers (s.hi.getD 0) s.self_distance then .error (.ret s.lo)
  else whileLoop (F.size + 1) (condSkip F) (bodySkip F)
    { s with lo := s.hi, hi := F.parentOf (s.hi.getD 0) }

/-- The skipping loop moves `hi` to the first threshold-bearing node of the remaining chain. -/
theorem skip_spec {F : Forest} (hF : ForestWF F) (hpos : 0 < F.size) (g d : Nat) (lo : Option Nat)
    (n : Nat) (h : Option Nat) (hn : (F.chain h).length ≤ n) :
    ∃ h', whileLoop (n + 1) (condSkip F) (bodySkip F) ⟨g, d, lo, h⟩ = .ok ⟨g, d, lo, h'⟩ ∧
      F.chain h' = (F.chain h).dropWhile (fun a => !(F.thrOf a).isSome) ∧
      (∀ x, h' = some x → (F.thrOf x).isSome = true) := by
  induction n generalizing h with
  | zero =>
    cases h with
    | none => exact ⟨none, rfl, rfl, fun x hx => by cases hx⟩
    | some x => rw [chain_some hF hpos] at hn; simp at hn
  | succ n ih =>
    cases h with
    | none => exact ⟨none, rfl, rfl, fun x hx => by cases hx⟩
    | some x =>
      rw [chain_some hF hpos] at hn ⊢
      rw [whileLoop_succ, List.dropWhile_cons]
      cases hx : F.thrOf x with
      | some th =>
        refine ⟨some x, ?_, ?_, ?_⟩
        · simp only [condSkip, Option.isSome_some, Option.getD_some, hx, Option.isNone_some,
            Bool.and_false]
        · simp only [Option.isSome_some, Bool.not_true, Bool.false_eq_true, if_false]
          exact chain_some hF hpos x
        · intro y hy
          cases hy
          rw [hx]; rfl
      | none =>
        obtain ⟨h', hw, hc, hs⟩ := ih (F.parentOf x) (by simpa using hn)
        refine ⟨h', ?_, ?_, hs⟩
        · simp only [condSkip, bodySkip, Option.isSome_some, Option.getD_some, hx,
            Option.isNone_none, Bool.and_true]
          exact hw
        · simp only [Option.isSome_none, Bool.not_false, if_true]
          exact hc

/-- The outer loop, started with `hi` on a threshold-bearing node (or `None`), computes `nextWalk`
over the threshold-bearing part of the remaining chain: it either returns it or ends with it in `lo`. -/
theorem outer_spec {F : Forest} (hF : ForestWF F) (hpos : 0 < F.size) (g d : Nat)
    (n : Nat) (lo h : Option Nat) (hn : (F.chain h).length ≤ n)
    (hthr : ∀ x, h = some x → (F.thrOf x).isSome = true) :
    whileLoop (n + 1) condOuter (bodyOuter F) ⟨g, d, lo, h⟩
        = .error (.ret (nextWalk F d ((F.chain h).filter (fun a => (F.thrOf a).isSome)) lo)) ∨
    ∃ h', whileLoop (n + 1) condOuter (bodyOuter F) ⟨g, d, lo, h⟩
        = .ok ⟨g, d, nextWalk F d ((F.chain h).filter (fun a => (F.thrOf a).isSome)) lo, h'⟩ := by
  induction n generalizing lo h with
  | zero =>
    cases h with
    | none => exact .inr ⟨none, rfl⟩
    | some x => rw [chain_some hF hpos] at hn; simp at hn
  | succ n ih =>
    cases h with
    | none => exact .inr ⟨none, rfl⟩
    | some x =>
      have hx := hthr x rfl
      rw [chain_some hF hpos] at hn ⊢
      rw [whileLoop_succ, List.filter_cons_of_pos (p := fun a => (F.thrOf a).isSome) hx]
      simp only [nextWalk, condOuter, bodyOuter, Option.isSome_some, Option.getD_some]
      cases hc : F.covers x d with
      | true => exact .inl rfl
      | false =>
        simp only [Bool.false_eq_true, if_false]
        obtain ⟨h', hw, hch, hs⟩ :=
          skip_spec hF hpos g d (some x) F.size (F.parentOf x) (length_chain_le F _)
        rw [hw]
        have hlen : (F.chain h').length ≤ n := by
          rw [hch]
          exact Nat.le_trans (List.dropWhile_sublist _).length_le (by simpa using hn)
        rw [← filter_dropWhile_not _ (F.chain (F.parentOf x)), ← hch]
        exact ih (some x) h' hlen hs

/-- The tie, for a well-formed non-empty forest. -/
theorem next_taxon_eq' (F : Forest) (hF : ForestWF F) (hpos : 0 < F.size) (G : List Nat) (g d : Nat) :
    Gen.next_taxon F G g d = .ok (nextTaxon F (G.getD g 0) d) := by
  unfold Gen.next_taxon Gen.next_taxon.run nextTaxon
  simp only [bind, Except.bind]
  -- first loop: skip to the first threshold-bearing node
  obtain ⟨h₁, hw₁, hch₁, hs₁⟩ :=
    skip_spec hF hpos g d none F.size (some (G.getD g 0)) (length_chain_le F _)
  rw [whileLoop_congr (c₂ := condSkip F) (b₂ := bodySkip F)]
  case hc => intro s; rfl
  case hb => intro s; rfl
  rw [hw₁]
  simp only []
  -- second loop
  rw [whileLoop_congr (c₂ := condOuter) (b₂ := bodyOuter F)]
  case hc => intro s; rfl
  case hb =>
    intro s
    simp only [covers_eq, bodyOuter]
    cases F.covers (s.hi.getD 0) s.self_distance <;> rfl
  have hfil : (F.chain h₁).filter (fun a => (F.thrOf a).isSome)
      = (F.lineage (G.getD g 0)).filter (fun a => (F.thrOf a).isSome) := by
    rw [hch₁]; exact filter_dropWhile_not _ _
  rw [← hfil]
  rcases outer_spec hF hpos g d F.size none h₁ (length_chain_le F _) hs₁ with hr | ⟨h', hr⟩
  · rw [hr]; rfl
  · rw [hr]; rfl

/-- The tie as it is used: the genome's taxon is a node of the forest. -/
theorem next_taxon_eq (F : Forest) (hF : ForestWF F) (G : List Nat) (g d : Nat)
    (hg : G.getD g 0 < F.size) :
    Gen.next_taxon F G g d = .ok (nextTaxon F (G.getD g 0) d) :=
  next_taxon_eq' F hF (Nat.lt_of_le_of_lt (Nat.zero_le _) hg) G g d

/-! non-vacuity: the generated function evaluated on a concrete forest -/

/-- `0 ← 1 ← 3`, `0 ← 2`, `4` isolated; node 3 has no threshold -/
def demoForestN : Forest :=
  { parent := [none, some 0, some 0, some 1, none], thr := [some 5, some 3, some 3, none, some 2],
    report := [true, true, true, true, true] }

example : ForestWF demoForestN := forestWF_of_check (by decide)

example : Gen.next_taxon demoForestN [3, 2, 4] 0 4 = .ok (some 1) := by decide
example : Gen.next_taxon demoForestN [3, 2, 4] 0 2 = .ok none := by decide
example : Gen.next_taxon demoForestN [3, 2, 4] 0 9 = .ok (some 0) := by decide
example : Gen.next_taxon demoForestN [3, 2, 4] 2 3 = .ok (some 4) := by decide

/-! The hypothesis `0 < F.size` cannot be dropped: in the empty forest (which is vacuously
well-formed) the generated walk starts at `some t` and runs out of its fuel `F.size + 1 = 1`, while
the model's lineage (fuel `F.size = 0`) is empty. -/

example : ForestWF { parent := [], thr := [], report := [] } := forestWF_of_check (by decide)

example : Gen.next_taxon { parent := [], thr := [], report := [] } [] 0 1 = .fuelOut := by decide
example : nextTaxon { parent := [], thr := [], report := [] } 0 1 = none := by decide
example : Gen.next_taxon { parent := [], thr := [some 5], report := [] } [] 0 9 = .fuelOut := by
  decide

end GambitV.Tie.Py
