import GambitV.Gen.PyGetitem
import GambitV.Tie.PyConcat
import GambitV.Tie.PyCheckIndex
import GambitV.Lemmas.PyDispatch

/-!
Tie of the machine-translated `AdvancedIndexingMixin.__getitem__` (gambit/util/indexing.py), `GambitV.Gen.concat_getitem`, on a packed
collection (`cV sigs`, `cB sigs`) to the hand-written model `getItemConcat` of `Model/Indexing.lean`, composed with `classify`
(`Lemmas/PyDispatch.lean`): the form of index (`Index`) that a dynamically typed index expression (`Py.IdxVal`: what Python and NumPy
say of the object) denotes.  The classification itself — `isinstance` tests, the type check of the slice fields, `len`, `np.asarray`,
`ndim`, `dtype.kind` — is done by the translated source; `classify` states what it amounts to.

The generated body is evaluated once, in `concat_getitem_dispatch`: it is `Indexed.dispatch` (what the mixin does, given the methods
of the collection) of the translated methods of the packed collection, which are tied in `Tie.PyConcat` / `Tie.PyCheckIndex`.  What
the code does on each kind of index and its agreement with the model are then facts about `dispatch`.
-/
namespace GambitV.Tie.Py
open GambitV GambitV.Py GambitV.Gen GambitV.TieConcat GambitV.TieGet

/-- the methods of a packed collection -/
def concatIx (V B : List Int) : Indexed (List Int) Py.CArr Py.CSel where
  len := (B.length : Int) - 1
  check := Gen.check_index ((B.length : Int) - 1)
  getInt := Gen.concat_getitem_int V B
  getSlice := Gen.concat_getitem_slice V B
  getBool := Gen.mixin_getitem_bool_array V B
  getInts := Gen.concat_getitem_int_array V B
  one := .one
  many := .many

/-- the checking loop `for i in index: self._check_index(i)` is `checkAll` followed by one assignment of the last item -/
theorem check_loop (xs : List Int) (s : Gen.concat_getitem.St) :
    forEach xs (fun x s => (call (check_index (↑s.self_bounds.length - 1) x) : M Gen.concat_getitem.St Gen.concat_getitem.Ret Int)
        >>= fun _ => Except.ok { s with i_2 := x }) s
      = (call (checkAll (check_index (↑s.self_bounds.length - 1)) xs)
        >>= fun _ => Except.ok ({ s with i_2 := xs.getLastD s.i_2 }, true)) := by
  -- instantiated without the goal as expected type: unifying the two lambdas against it is slow
  have h := forEach_checkAll (ρ := Gen.concat_getitem.Ret) (key := Gen.concat_getitem.St.self_bounds)
    (fun b x => check_index (↑b.length - 1) x) (get := Gen.concat_getitem.St.i_2) (set := fun s x => { s with i_2 := x })
    (fun _ _ => rfl) (fun _ _ _ => rfl) (fun _ _ => rfl) (fun _ => rfl) xs s
  exact h

/-- `__getitem__` of a packed collection is `dispatch` of its methods.  The array part is evaluated first, from any state, then the
classification in front of it. -/
theorem concat_getitem_dispatch (V B : List Int) (idx : IdxVal) :
    Gen.concat_getitem V B idx = (concatIx V B).dispatch idx := by
  unfold Gen.concat_getitem Gen.concat_getitem.run
  refine (finish_bind (fun s => (concatIx s.self_values s.self_bounds).dispatchArr s.index) ?_).trans ?_
  · intro s
    by_cases hnd : s.index.isNd = true
    · obtain ⟨a, ha⟩ := IdxVal.eq_nd_of_isNd hnd
      by_cases hd : a.ndim = 1
      · have h1 : (a.ndim : Int) = 1 := by omega
        simp only [py_eval, ha, len?_nd a hd, h1, ne_eq, not_true_eq_false, decide_eq_true_eq, Bool.or_eq_true,
          beq_iff_eq, decide_not, Bool.not_eq_true', decide_eq_false_iff_not,
          check_loop, finalInts_paths, bind_assoc, ite_bind, finish_ite, finish_call,
          Indexed.dispatchArr_nd, Indexed.dispatchNd, concatIx, Res.map]
      · have h1 : ¬ (a.ndim : Int) = 1 := by omega
        simp only [py_eval, ha, h1, ne_eq, not_false_eq_true,
          decide_eq_true_eq, decide_not, Bool.not_eq_true', decide_eq_false_iff_not,
          Indexed.dispatchArr_nd, Indexed.dispatchNd_ndim _ hd]
    · have hnd' : s.index.isNd = false := by simpa using hnd
      simp only [py_eval, hnd', Indexed.dispatchArr_not_nd _ hnd']
  · cases idx with
    | int i => simp only [py_eval, finish_call, Indexed.dispatch, concatIx, Res.map]
    | slice f g h =>
      simp only [py_eval, forEach_guardAll, List.foldl_cons, List.foldl_nil, IdxVal.stepIsZero, IdxVal.sliceHasOther,
        IdxVal.sliceTuple, Py.guard, beq_iff_eq, Bool.or_eq_true, ite_bind, finish_ite, finish_call, Indexed.dispatch, concatIx, Res.map]
    | nd a => simp only [py_eval, Indexed.dispatchArr_nd, Indexed.dispatch]
    | sized n sp asarr =>
      simp only [decide_eq_true_eq, Bool.and_eq_true, Bool.not_eq_true']
      by_cases he : (n : Int) = 0 ∧ sp = false
      · simp only [py_eval, he, and_self, Indexed.dispatchArr_emptyInt, Indexed.dispatch]
      · cases asarr with
        | none => simp only [py_eval, he, Indexed.dispatch]
        | some a =>
          simp only [py_eval, he, Indexed.dispatchArr_nd, Indexed.dispatch]
    | unsized => simp only [py_eval, Indexed.dispatch]

theorem cB_length_sub_one (sigs : List (List Nat)) : (((cB sigs).length : Nat) : Int) - 1 = (sigs.length : Int) :=
  pB_length_sub_one sigs

/-- a result of the translated dispatch against a result of the model: the same signature, the same packed collection -/
def SameC : Py.CSel → CSel → Prop
  | r, .one x => r = .one (x.map (fun (v : Nat) => (v : Int)))
  | r, .many c => ∃ r', r = .many r' ∧ toConcat r' = c

theorem concatIx_selects (sigs : List (List Nat)) : Selects (concatIx (cV sigs) (cB sigs)) (concatSpec sigs) SameC where
  len := cB_length_sub_one sigs
  check i := by
    show Gen.check_index (((cB sigs).length : Nat) - 1) i = chkRes Int.ofNat (checkIndex sigs.length i)
    rw [cB_length_sub_one, check_index_eq]
    cases checkIndex sigs.length i <;> rfl
  getInt j hj := ⟨_, concat_getitem_int_eq sigs j hj, by show Py.CSel.one _ = .one (List.map _ (Concat.get _ j)); rw [ofList_getD]⟩
  getInts js hjs := by
    obtain ⟨r, hr, hc, -, -⟩ := concat_getitem_int_array_eq sigs js hjs
    exact ⟨r, hr, r, rfl, hc⟩
  getSlice a b s hs := by
    obtain ⟨r, hr, hc⟩ := concat_getitem_slice_eq sigs a b s hs
    exact ⟨r, _, hr, hc, r, rfl, rfl⟩
  getBool k hk := by
    obtain ⟨r, hr, hc⟩ := mixin_getitem_bool_array_eq sigs k hk
    exact ⟨r, hr, r, rfl, hc⟩

theorem getitem_int (sigs : List (List Nat)) (i : Int) :
    Gen.concat_getitem (cV sigs) (cB sigs) (.int i) = (match checkIndex sigs.length i with
      | .ok j => .ok (.one ((sigs.getD j []).map (fun (v : Nat) => (v : Int))))
      | .error _ => .raised .IndexError) := by
  rw [concat_getitem_dispatch]
  have hc : _ = chkRes Int.ofNat (checkIndex sigs.length i) := (concatIx_selects sigs).check i
  cases hj : checkIndex sigs.length i with
  | error e => rw [hj] at hc; exact dispatch_int_raised _ hc
  | ok j => rw [hj] at hc; exact dispatch_int_ok _ hc (concat_getitem_int_eq sigs j (C20.checkIndex_lt hj))

/-- the three fields are type-checked in turn, then the step is compared with 0, then `_getitem_slice` decides -/
theorem getitem_slice_gen (V B : List Int) (a b c : Option (Option Int)) :
    Gen.concat_getitem V B (.slice a b c) =
      if (a == some none || b == some none || c == some none) then .raised .TypeError
      else if c == some (some 0) then .raised .ValueError
      else match Gen.concat_getitem_slice V B (IdxVal.fieldInt? a, IdxVal.fieldInt? b, IdxVal.fieldInt? c) with
        | .ok r => .ok (.many r)
        | .raised e => .raised e
        | .fuelOut => .fuelOut := by
  rw [concat_getitem_dispatch, Indexed.dispatch_slice]
  show (if _ then _ else if _ then _ else Res.map Py.CSel.many (Gen.concat_getitem_slice V B _)) = _
  cases Gen.concat_getitem_slice V B (IdxVal.fieldInt? a, IdxVal.fieldInt? b, IdxVal.fieldInt? c) <;> rfl

theorem getitem_arr_ndim (V B : List Int) (idx : IdxVal) (a : NdArr) (h : IsArr idx a) (hnd : a.ndim ≠ 1) :
    Gen.concat_getitem V B idx = .raised .IndexError := by
  rw [concat_getitem_dispatch, dispatch_isArr _ h]
  exact Indexed.dispatchNd_ndim _ hnd

theorem getitem_arr_kind (V B : List Int) (idx : IdxVal) (a : NdArr) (h : IsArr idx a) (hnd : a.ndim = 1)
    (hb : a.kind ≠ 'b') (hi : a.kind ≠ 'i') (hu : a.kind ≠ 'u') :
    Gen.concat_getitem V B idx = .raised .IndexError := by
  rw [concat_getitem_dispatch, dispatch_isArr _ h]
  exact Indexed.dispatchNd_kind _ hnd hb (fun h => h.elim hi hu)

theorem getitem_arr_bool_len (sigs : List (List Nat)) (idx : IdxVal) (a : NdArr) (h : IsArr idx a) (hnd : a.ndim = 1)
    (hk : a.kind = 'b') (hl : a.len0 ≠ sigs.length) :
    Gen.concat_getitem (cV sigs) (cB sigs) idx = .raised .IndexError := by
  rw [concat_getitem_dispatch, dispatch_isArr _ h, Indexed.dispatchNd_bool _ hnd hk, (concatIx_selects sigs).len]
  exact if_pos (fun e => hl (Int.ofNat.inj e))

theorem getitem_arr_bool (sigs : List (List Nat)) (idx : IdxVal) (a : NdArr) (h : IsArr idx a) (hnd : a.ndim = 1)
    (hk : a.kind = 'b') (hl : a.len0 = sigs.length) (r : Py.CArr)
    (hr : Gen.mixin_getitem_bool_array (cV sigs) (cB sigs) a.bools = .ok r) :
    Gen.concat_getitem (cV sigs) (cB sigs) idx = .ok (.many r) := by
  rw [concat_getitem_dispatch, dispatch_isArr _ h, Indexed.dispatchNd_bool _ hnd hk, (concatIx_selects sigs).len, hl]
  exact (if_neg (fun h => h rfl)).trans ((congrArg (Res.map _) hr).trans (Res.map_ok _ r))

/-- an invariant of the checking loop `for i in index: self._check_index(i)`, for `check_body` below (the tie itself goes through
`check_loop`, which needs none) -/
def LoopInv (sigs : List (List Nat)) (a : NdArr) (s : Gen.concat_getitem.St) : Prop :=
  s.self_values = cV sigs ∧ s.self_bounds = cB sigs ∧ s.index = .nd a

/-- one iteration of the checking loop: `_check_index` raises `IndexError` or the loop goes on (only the loop variable is assigned) -/
theorem check_body (sigs : List (List Nat)) (a : NdArr) (x : Int) (s : Gen.concat_getitem.St) (hs : LoopInv sigs a s) :
    Except.bind (call (check_index (↑s.self_bounds.length - 1) x) : M Gen.concat_getitem.St Gen.concat_getitem.Ret Int)
        (fun _ => Except.ok
          { self_values := s.self_values, self_bounds := s.self_bounds, index := s.index,
            input_index := s.input_index, i_1 := s.i_1, i_2 := x, isneg := s.isneg })
      = chkOut (checkIndex sigs.length x) { s with i_2 := x } .IndexError ∧ LoopInv sigs a { s with i_2 := x } := by
  refine ⟨?_, hs⟩
  rw [hs.2.1, cB_length_sub_one, check_index_eq]
  cases checkIndex sigs.length x <;> rfl

theorem getitem_arr_ints_bad (sigs : List (List Nat)) (idx : IdxVal) (a : NdArr) (h : IsArr idx a) (hnd : a.ndim = 1)
    (hb : a.kind ≠ 'b') (hiu : a.kind = 'i' ∨ a.kind = 'u') (e : IdxErr) (hn : normIndices sigs.length a.ints = .error e) :
    Gen.concat_getitem (cV sigs) (cB sigs) idx = .raised .IndexError := by
  rw [concat_getitem_dispatch]
  exact dispatch_arr_ints_bad _ h hnd hb hiu (by rw [(concatIx_selects sigs).checkAll_eq]; exact congrArg (chkRes _) hn)

theorem getitem_arr_ints (sigs : List (List Nat)) (idx : IdxVal) (a : NdArr) (h : IsArr idx a) (hnd : a.ndim = 1)
    (hb : a.kind ≠ 'b') (hiu : a.kind = 'i' ∨ a.kind = 'u') (js : List Nat) (hn : normIndices sigs.length a.ints = .ok js)
    (r : Py.CArr) (hr : Gen.concat_getitem_int_array (cV sigs) (cB sigs) (finalInts sigs.length a) = .ok r) :
    Gen.concat_getitem (cV sigs) (cB sigs) idx = .ok (.many r) := by
  rw [concat_getitem_dispatch]
  exact dispatch_arr_ints _ h hnd hb hiu (by rw [(concatIx_selects sigs).checkAll_eq]; exact congrArg (chkRes _) hn)
    (by rw [(concatIx_selects sigs).len]; exact hr)

/-- an empty sequence that is not a string / mapping / set: an empty integer array, whatever `np.asarray` would say -/
theorem getitem_sized_empty (sigs : List (List Nat)) (asarr : Option NdArr) (r : Py.CArr)
    (hr : Gen.concat_getitem_int_array (cV sigs) (cB sigs) [] = .ok r) :
    Gen.concat_getitem (cV sigs) (cB sigs) (.sized 0 false asarr) = .ok (.many r) := by
  rw [concat_getitem_dispatch]
  exact (congrArg (Res.map _) hr).trans (Res.map_ok _ r)

/-- `np.asarray` raises: reported as an `IndexError` -/
theorem getitem_sized_none (V B : List Int) (n : Nat) (sp : Bool) (hne : ¬ (((n : Nat) : Int) = 0 ∧ sp = false)) :
    Gen.concat_getitem V B (.sized n sp none) = .raised .IndexError := by
  rw [concat_getitem_dispatch]
  exact if_neg hne

theorem getitem_unsized (V B : List Int) : Gen.concat_getitem V B .unsized = .raised .TypeError :=
  concat_getitem_dispatch V B .unsized

/-- the shape of the three stated conclusions, for one outcome of the model -/
def Agrees (sigs : List (List Nat)) (idx : IdxVal) (m : Except IdxErr CSel) : Prop :=
  match m with
  | .ok (.one x) => Gen.concat_getitem (cV sigs) (cB sigs) idx = .ok (.one (x.map (fun (v : Nat) => (v : Int))))
  | .ok (.many c) => ∃ r, Gen.concat_getitem (cV sigs) (cB sigs) idx = .ok (.many r) ∧ toConcat r = c
  | .error e => Gen.concat_getitem (cV sigs) (cB sigs) idx = .raised (excOf e)

theorem agrees_of_follows {sigs : List (List Nat)} {idx : IdxVal} {m : Except IdxErr CSel}
    (h : Follows (concatIx (cV sigs) (cB sigs)) SameC idx m) : Agrees sigs idx m := by
  cases m with
  | error e => exact (concat_getitem_dispatch _ _ _).trans h
  | ok t =>
    obtain ⟨r, hr, hR⟩ := h
    rw [← concat_getitem_dispatch] at hr
    cases t with
    | one x => exact hr.trans (congrArg Res.ok hR)
    | many c =>
      obtain ⟨r', rfl, hr'⟩ := hR
      exact ⟨r', hr, hr'⟩

theorem getitem_arr_eq (sigs : List (List Nat)) (idx : IdxVal) (a : NdArr) (h : IsArr idx a) (hwf : ndWF a)
    (hlen : sigs.length < 2 ^ 63) : Agrees sigs idx (getItemConcat (Concat.ofList sigs) (classifyNd a)) := by
  rw [getItemConcat_eq_get]
  exact agrees_of_follows ((concatIx_selects sigs).nd h (fun _ _ => hwf) (fun _ _ => hlen))

theorem concat_getitem_agrees (sigs : List (List Nat)) (idx : Py.IdxVal) (hwf : idxWF idx) (hlen : sigs.length < 2 ^ 63) :
    Agrees sigs idx (getItemConcat (Concat.ofList sigs) (classify idx)) := by
  rw [getItemConcat_eq_get]
  exact agrees_of_follows ((concatIx_selects sigs).dispatch idx (fun _ _ => hwf) (fun _ _ => hlen))

/-- the dispatch of `__getitem__`, as the source has it now, on a packed collection = the model on the classified index -/
theorem concat_getitem_eq (sigs : List (List Nat)) (idx : Py.IdxVal) (hwf : idxWF idx) (hlen : sigs.length < 2 ^ 63) :
    match getItemConcat (Concat.ofList sigs) (classify idx) with
    | .ok (.one x) => Gen.concat_getitem (cV sigs) (cB sigs) idx = .ok (.one (x.map (fun (v : Nat) => (v : Int))))
    | .ok (.many c) => ∃ r, Gen.concat_getitem (cV sigs) (cB sigs) idx = .ok (.many r) ∧ toConcat r = c
    | .error e => Gen.concat_getitem (cV sigs) (cB sigs) idx = .raised (excOf e) :=
  concat_getitem_agrees sigs idx hwf hlen

/-- read back as what a plain list selects (C20's reference semantics) -/
def selOfPy : Py.CSel → Sel (List Nat)
  | .one x => .one (x.map Int.toNat)
  | .many r => .many (toConcat r).toList

theorem py_getitem_refines_list (sigs : List (List Nat)) (idx : Py.IdxVal) (hwf : idxWF idx) (hlen : sigs.length < 2 ^ 63) :
    match getItemList sigs (classify idx) with
    | .ok sel => ∃ r, Gen.concat_getitem (cV sigs) (cB sigs) idx = .ok r ∧ selOfPy r = sel
    | .error e => Gen.concat_getitem (cV sigs) (cB sigs) idx = .raised (excOf e) := by
  have h := concat_getitem_agrees sigs idx hwf hlen
  have href := C20.concat_refines_list sigs (classify idx)
  cases hg : getItemConcat (Concat.ofList sigs) (classify idx) with
  | error e =>
    rw [hg] at h href
    rw [← href]
    exact h
  | ok sel =>
    rw [hg] at h href
    rw [← href]
    cases sel with
    | one x => exact ⟨_, h, by show Sel.one _ = Sel.one _; rw [toNat_natCast_map]⟩
    | many c =>
      obtain ⟨r, hr, hc⟩ := h
      exact ⟨_, hr, by show Sel.many _ = Sel.many _; rw [hc]⟩

theorem getitem_arr_bad (sigs : List (List Nat)) (idx : IdxVal) (a : NdArr) (h : IsArr idx a)
    (hc : classifyNd a = .badArray ∨ classifyNd a = .unsized ∨ classifyNd a = .sliceBadType) :
    Gen.concat_getitem (cV sigs) (cB sigs) idx = .raised .IndexError := by
  rcases ndArr_cases a with hnd | ⟨hnd, hk⟩ | ⟨hnd, hk, hiu⟩ | ⟨hnd, hk, hiu⟩
  · exact getitem_arr_ndim _ _ idx a h hnd
  · rw [classifyNd_bool hnd hk] at hc
    rcases hc with hc | hc | hc <;> cases hc
  · rw [classifyNd_ints hnd hk hiu] at hc
    rcases hc with hc | hc | hc <;> cases hc
  · exact getitem_arr_kind _ _ idx a h hnd hk (fun hi => hiu (Or.inl hi)) (fun hu => hiu (Or.inr hu))

/-- ill-typed indices raise an index or type error, never select: every index that is not an integer, a well-typed slice, or a
one-dimensional integer / Boolean array is refused -/
theorem py_getitem_ill_typed (sigs : List (List Nat)) (idx : Py.IdxVal)
    (h : classify idx = .badArray ∨ classify idx = .unsized ∨ classify idx = .sliceBadType) :
    Gen.concat_getitem (cV sigs) (cB sigs) idx = .raised .IndexError ∨ Gen.concat_getitem (cV sigs) (cB sigs) idx = .raised .TypeError := by
  -- a case of agreement: such an index is neither a mask nor a list of integers, so `Selects.dispatch` asks nothing of it, and the
  -- model refuses it
  have hno : ∀ ix : Index, ix = .badArray ∨ ix = .unsized ∨ ix = .sliceBadType → (∀ k, ix ≠ .mask k) ∧ ∀ l, ix ≠ .ints l := by
    rintro _ (rfl | rfl | rfl) <;> exact ⟨fun _ e => Index.noConfusion e, fun _ e => Index.noConfusion e⟩
  obtain ⟨hmask, hints⟩ := hno _ h
  have hF := (concatIx_selects sigs).dispatch idx (fun k hk => absurd hk (hmask k)) (fun l hl => absurd hl (hints l))
  rw [concat_getitem_dispatch]
  rcases h with h | h | h <;> rw [h] at hF
  · exact Or.inl hF
  · exact Or.inr hF
  · exact Or.inr hF

/-! ### non-vacuity: the generated dispatch on the collection `[[1, 2], [], [7, 8, 9]]` -/

-- an integer index `-1` is wrapped once
example : Gen.concat_getitem (cV [[1, 2], [], [7, 8, 9]]) (cB [[1, 2], [], [7, 8, 9]]) (.int (-1)) = .ok (.one [7, 8, 9])
    ∧ classify (.int (-1)) = .int (-1) := by decide
-- the slice `::-1` goes through the mixin's `_getitem_slice` (gathered copy, reversed)
example : Gen.concat_getitem (cV [[1, 2], [], [7, 8, 9]]) (cB [[1, 2], [], [7, 8, 9]]) (.slice none none (some (some (-1))))
    = .ok (.many { values := [7, 8, 9, 1, 2], bounds := [0, 3, 3, 5] }) := by decide +kernel
-- a slice with a field that is not an integer, and a zero step
example : Gen.concat_getitem (cV [[1, 2], [], [7, 8, 9]]) (cB [[1, 2], [], [7, 8, 9]]) (.slice (some none) none (some (some 0)))
      = .raised .TypeError
    ∧ Gen.concat_getitem (cV [[1, 2], [], [7, 8, 9]]) (cB [[1, 2], [], [7, 8, 9]]) (.slice none none (some (some 0)))
      = .raised .ValueError := by decide
-- an unsigned array `[2, 0]` (converted to `intp`) and a signed one with negative entries `[-1, -3, 1]` (wrapped in place)
example : Gen.concat_getitem (cV [[1, 2], [], [7, 8, 9]]) (cB [[1, 2], [], [7, 8, 9]])
      (.nd { ndim := 1, kind := 'u', len0 := 2, ints := [2, 0], bools := [] })
      = .ok (.many { values := [7, 8, 9, 1, 2], bounds := [0, 3, 5] })
    ∧ Gen.concat_getitem (cV [[1, 2], [], [7, 8, 9]]) (cB [[1, 2], [], [7, 8, 9]])
      (.nd { ndim := 1, kind := 'i', len0 := 3, ints := [-1, -3, 1], bools := [] })
      = .ok (.many { values := [7, 8, 9, 1, 2], bounds := [0, 3, 5, 5] }) := by decide +kernel
-- an unsigned entry 2^64 - 1 is out of range (it is checked before the conversion, not read as -1)
example : Gen.concat_getitem (cV [[1, 2], [], [7, 8, 9]]) (cB [[1, 2], [], [7, 8, 9]])
      (.nd { ndim := 1, kind := 'u', len0 := 1, ints := [18446744073709551615], bools := [] }) = .raised .IndexError := by decide
-- a Boolean mask of the right and of the wrong length
example : Gen.concat_getitem (cV [[1, 2], [], [7, 8, 9]]) (cB [[1, 2], [], [7, 8, 9]])
      (.nd { ndim := 1, kind := 'b', len0 := 3, ints := [], bools := [true, false, true] })
      = .ok (.many { values := [1, 2, 7, 8, 9], bounds := [0, 2, 5] })
    ∧ Gen.concat_getitem (cV [[1, 2], [], [7, 8, 9]]) (cB [[1, 2], [], [7, 8, 9]])
      (.nd { ndim := 1, kind := 'b', len0 := 2, ints := [], bools := [true, false] }) = .raised .IndexError
    ∧ idxWF (.nd { ndim := 1, kind := 'b', len0 := 2, ints := [], bools := [true, false] }) :=
  ⟨by decide, by decide, fun _ _ => rfl⟩
-- a float array, a two-dimensional array, a list that `np.asarray` makes a string array, a float
example : Gen.concat_getitem (cV [[1, 2], [], [7, 8, 9]]) (cB [[1, 2], [], [7, 8, 9]])
      (.nd { ndim := 1, kind := 'f', len0 := 1, ints := [], bools := [] }) = .raised .IndexError
    ∧ Gen.concat_getitem (cV [[1, 2], [], [7, 8, 9]]) (cB [[1, 2], [], [7, 8, 9]])
      (.nd { ndim := 2, kind := 'i', len0 := 2, ints := [], bools := [] }) = .raised .IndexError
    ∧ Gen.concat_getitem (cV [[1, 2], [], [7, 8, 9]]) (cB [[1, 2], [], [7, 8, 9]])
      (.sized 2 false (some { ndim := 1, kind := 'U', len0 := 2, ints := [], bools := [] })) = .raised .IndexError
    ∧ Gen.concat_getitem (cV [[1, 2], [], [7, 8, 9]]) (cB [[1, 2], [], [7, 8, 9]]) .unsized = .raised .TypeError
    ∧ classify (.nd { ndim := 1, kind := 'f', len0 := 1, ints := [], bools := [] }) = .badArray := by decide
-- a list of integers `[1, -1]`, and the empty list
example : Gen.concat_getitem (cV [[1, 2], [], [7, 8, 9]]) (cB [[1, 2], [], [7, 8, 9]])
      (.sized 2 false (some { ndim := 1, kind := 'i', len0 := 2, ints := [1, -1], bools := [] }))
      = .ok (.many { values := [7, 8, 9], bounds := [0, 0, 3] })
    ∧ Gen.concat_getitem (cV [[1, 2], [], [7, 8, 9]]) (cB [[1, 2], [], [7, 8, 9]]) (.sized 0 false none)
      = .ok (.many { values := [], bounds := [0] }) := by decide +kernel

end GambitV.Tie.Py
