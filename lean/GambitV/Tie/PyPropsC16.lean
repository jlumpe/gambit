import GambitV.Tie.PyDmatCsv
import GambitV.Props.C16

/-!
C16 stated of the translated `dump_dmat_csv`: the file the distance command writes — the rows the *current* source hands to the csv writer,
in the default dialect — parses back to exactly those rows: the header with the column labels, then for every query its label and the
four-decimal rendering of its distances, whatever characters the labels contain.
-/
namespace GambitV.Tie.Py
open GambitV

theorem py_dist_csv_parses (dmat : List (List UInt32)) (rowIds colIds : List (List Char)) (hlen : rowIds.length = dmat.length) :
    ∃ rows, Gen.dump_dmat_csv () dmat rowIds colIds none "0.4f".toList = .ok rows
      ∧ parseCsv (writeCsv ['\r', '\n'] rows) = rows
      ∧ rows = ([] :: colIds) :: (rowIds.zip dmat).map (fun rc => rc.1 :: rc.2.map (fun b => (F32.fmt4 b).toList)) := by
  exact ⟨_, dump_dmat_csv_eq dmat rowIds colIds none hlen, C16.distCsv_parse rowIds colIds dmat hlen, rfl⟩

end GambitV.Tie.Py
