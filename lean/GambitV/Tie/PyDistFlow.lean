import GambitV.Gen.PyDistFlow

/-!
Tie: the data flow of `gambit dist` (`cli/dist.py:dist_cmd`) and the layout of its CSV (`cluster.py:dump_dmat_csv`), read off the *current*
sources by harness/pytrace.py on every run.  Each fact is the presence of one statement in one place (compared as normalised `ast` text) plus the
absence of any other assignment to the names involved; together they say what the model of C16 assumes of the command:

* every side's labels come with that side's signatures (file IDs with the file's signatures, file labels with the files handed to
  `calc_file_signatures`, which returns them in file order — `Tie/PyCalcFiles.lean`); with `--square` the column labels are the row labels;
* the matrix is `jaccarddist_pairwise(query_sigs)` (square) or `jaccarddist_matrix(query_sigs, ref_sigs)` — both tied to the bulk models in
  `Tie/PyBulk.lean` / `Tie/PyPairwise.lean`;
* `dump_dmat_csv(output, dmat, query_ids, ref_ids)`: header = corner cell + column labels, then per `zip_strict(row_ids, dmat)` pair the row
  label and `format(d, '0.4f')` of each cell — the rows the model `distCsv` writes (`C16.distCsv_parse`).

A structural tie: an edit of any of these statements makes a fact `false` and this theorem fails, whatever input the edit needs in order to show
(a harmless rewrite of them does so too and is then reported as no-failing-input-found).
-/
namespace GambitV.Tie.Py

theorem dist_flow_facts :
    Gen.pyDist_queryIds = true ∧ Gen.pyDist_refIds = true ∧ Gen.pyDist_square = true ∧ Gen.pyDist_matrix = true
      ∧ Gen.pyDist_sigsFromFiles = true ∧ Gen.pyDist_dump = true ∧ Gen.pyDist_noOtherStores = true
      ∧ Gen.pyDist_csvHeader = true ∧ Gen.pyDist_csvRows = true ∧ Gen.pyDist_csvFmt = true := by
  decide

end GambitV.Tie.Py
