import GambitV.Gen.PyBindings

/-!
Tie: the public names through which the k-mer kernels are reached are the compiled functions themselves, read off the *current* sources by
harness/pytrace.py on every run: `gambit.seq.revcomp` and `gambit.kmers.index_to_kmer` are imported from `gambit._cython.kmers` and bound by nothing
else in their modules; `revcomp` in `gambit.kmers` is `gambit.seq.revcomp`; `ckmers` is the compiled module.  The functions behind these names are
the ones `harness/pyx2lean.py` regenerates from the `.pyx` (`Tie/Kmers.lean`); a Python re-implementation put under one of these names (seeded change
C07-w7m1: a `bytes.translate` version of `revcomp` that also complements the IUPAC ambiguity codes) makes a fact `false`.
-/
namespace GambitV.Tie.Py

theorem kmer_binding_facts :
    Gen.pyBind_seqRevcomp = true ∧ Gen.pyBind_kmersIndexToKmer = true ∧ Gen.pyBind_kmersRevcomp = true ∧ Gen.pyBind_kmersModule = true := by
  decide

end GambitV.Tie.Py
