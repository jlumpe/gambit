import GambitV.Gen.PyFindKmers
import GambitV.Lemmas.TiePyMisc

/-!
Tie: the generated translations of `gambit.kmers.find_kmers` and `KmerMatch.kmer_indices` equal the hand-written
models of `Model/Find.lean` (`haystack`, `fwdMatches`, `revMatches`, `fwdKmer`, `revKmer`).

`find_kmers_eq'` unfolds the generated `run` once and then walks through its three loops.  Each loop is handed,
as it stands in the goal, to its loop rule (`Py.forEach_break_inv`; `whileLoop_find_sim` of `Lemmas/TiePyMisc.lean`; the
loop given as `rfl`, so that the generated body is found by unification and never copied here) through
`Py.finish_bind_ok` / `Py.finish_of_ok`; the only facts proved against the generated term are the per-iteration ones ("falls through" / "breaks" /
"yields `f loc` and restarts at `loc + 1`"), each by one `simp only` + `rfl`.  The fuel the translator emits
(`len(seq) + 2`) is more than the remaining range, so each search loop yields every matching position of its range,
which is what the model's `fwdMatches` / `revMatches` are (`fwdMatches_eq`, `revMatches_eq`).

`1 ≤ k` is needed: for `k = 0` Python's `-0 == 0` makes the end bound of the forward search `0`
(`Gen.find_kmers {k := 0, pre := [65]} [65, 65, 65] = .ok []` has no forward matches, the model has 3; see the
examples after `find_kmers_eq`).
The hypothesis `pre ≠ []` of `find_kmers_eq` is not used (the run-time `Py.bytesFind` and the model share
`GambitV.bytesFind`, whatever it does on an empty pattern); `find_kmers_eq'` is the statement without it.
-/
namespace GambitV.Tie.Py
open GambitV GambitV.Gen

/-- `NUCLEOTIDES.lower()` is `b"acgt"` -/
theorem lower_nucleotides : Py.lower Py.NUCLEOTIDES = [97, 99, 103, 116] := by decide

/-- the membership test of the generated loop is the model's test for one of `acgt` -/
theorem any_acgt (seq : List UInt8) :
    seq.any (fun c => ([97, 99, 103, 116] : List UInt8).contains c)
      = seq.any (fun c => c == 97 || c == 99 || c == 103 || c == 116) := by
  congr 1
  funext c
  simp only [List.contains_cons, List.contains_nil, Bool.or_false, Bool.or_assoc]

/-- `find_kmers(kmerspec, seq)` yields the forward matches (`pos = loc`, `reverse = False`) and then the reverse
matches (`pos = loc + prefix_len - 1`, `reverse = True`) of the model, in that order. -/
theorem find_kmers_eq' (k : Nat) (pre seq : List UInt8) (hk : 1 ≤ k) :
    Gen.find_kmers { k := (k : Int), pre := pre } seq
      = .ok ((fwdMatches k pre (haystack seq)).map (fun (l : Nat) => ((l : Int), false))
          ++ (revMatches k pre (haystack seq)).map (fun (l : Nat) => ((l : Int) + (pre.length : Int) - 1, true))) := by
  unfold Gen.find_kmers find_kmers.run
  -- the upper-casing `for` loop
  refine Py.finish_bind_ok _ (Py.forEach_break_inv rfl (fun c => ([97, 99, 103, 116] : List UInt8).contains c)
    (fun s => s.kmerspec = { k := (k : Int), pre := pre } ∧ s.seq = seq ∧ s.yielded = [] ∧
      s.nucs_lower = [97, 99, 103, 116] ∧ s.haystack = seq)
    (fun s => s.kmerspec = { k := (k : Int), pre := pre } ∧ s.seq = seq ∧ s.yielded = [] ∧
      s.haystack = upper seq)
    (by
      rintro x s ⟨h1, h2, h3, h4, h5⟩ hx
      simp only [h4, hx, py_eval]
      exact ⟨_, rfl, h1, h2, h3, rfl, h5⟩)
    (by
      rintro x s ⟨h1, h2, h3, h4, h5⟩ hx
      simp only [h4, hx, py_eval]
      exact ⟨_, rfl, h1, h2, h3, by simp only [h5]⟩)
    ⟨rfl, rfl, rfl, lower_nucleotides, rfl⟩) ?_
  intro r hr
  have hr' : r.1.kmerspec = { k := (k : Int), pre := pre } ∧ r.1.seq = seq ∧ r.1.yielded = [] ∧
      r.1.haystack = haystack seq := by
    unfold haystack
    rw [← any_acgt]
    split at hr
    · rename_i hany
      rw [if_pos hany]
      exact hr
    · rename_i hany
      obtain ⟨hspec, hseq, hyield, -, hhay⟩ := hr
      rw [if_neg hany]
      exact ⟨hspec, hseq, hyield, hhay⟩
  clear hr
  obtain ⟨hr1, hr2, hr3, hr4⟩ := hr'
  -- the forward search loop
  refine Py.finish_bind_ok _ (whileLoop_find_sim rfl (haystack seq) pre
    (pyEndNeg (haystack seq).length k) (fun (l : Nat) => ((l : Int), false))
    (fun s => s.yielded) (fun s => s.start)
    (fun s => s.kmerspec = { k := (k : Int), pre := pre } ∧ s.seq = seq ∧ s.haystack = haystack seq)
    (fun _ => rfl)
    (by
      rintro s start ⟨h1, h2, h3⟩ hst hfind
      simp only [h1, h3, hst, bytesFind_negStop _ _ _ _ hk, hfind, Int.reduceNeg, Int.reduceLT, decide_true, py_eval]
      exact ⟨_, rfl, ⟨rfl, h2, rfl⟩, rfl⟩)
    (by
      rintro s start loc ⟨h1, h2, h3⟩ hst hfind
      simp only [h1, h3, hst, bytesFind_negStop _ _ _ _ hk, hfind, py_eval]
      exact ⟨_, rfl, ⟨rfl, h2, rfl⟩, rfl, rfl⟩)
    0 ⟨hr1, hr2, hr4⟩ rfl (by simp only [pyEndNeg, haystack_length, hr2]; omega)) ?_
  rintro s1 ⟨⟨h1a, h1b, h1c⟩, hy1⟩
  simp only []
  -- the reverse search loop
  refine Py.finish_of_ok _ (whileLoop_find_sim rfl (haystack seq) (revcomp pre)
    (haystack seq).length (fun (l : Nat) => ((l : Int) + (pre.length : Int) - 1, true))
    (fun s => s.yielded) (fun s => s.start)
    (fun s => s.kmerspec = { k := (k : Int), pre := pre } ∧ s.haystack = haystack seq ∧
      s.prefix_rc = revcomp pre)
    (fun _ => rfl)
    (by
      rintro s start ⟨h1, h2, h3⟩ hst hfind
      simp only [h2, h3, hst, bytesFind_noStop, hfind, Int.reduceNeg, Int.reduceLT, decide_true, py_eval]
      exact ⟨_, rfl, ⟨h1, rfl, rfl⟩, rfl⟩)
    (by
      rintro s start loc ⟨h1, h2, h3⟩ hst hfind
      simp only [h1, h2, h3, hst, bytesFind_noStop, hfind, py_eval]
      exact ⟨_, rfl, ⟨rfl, rfl, rfl⟩, rfl, rfl⟩)
    k ⟨h1a, h1c, by simp only [h1a]⟩ (by simp only [h1a]) (by simp only [haystack_length, h1b]; omega)) ?_
  rintro s2 ⟨-, hy2⟩
  simp only [py_eval, hy2, hy1, hr3, List.nil_append]
  rw [fwdMatches_eq, revMatches_eq, C07.revcomp_length, List.range_eq_range']
  rfl

/-- The statement as specified (with `pre ≠ []`, which the proof does not need). -/
theorem find_kmers_eq (k : Nat) (pre seq : List UInt8) (hk : 1 ≤ k) (_hp : pre ≠ []) :
    Gen.find_kmers { k := (k : Int), pre := pre } seq
      = .ok ((fwdMatches k pre (haystack seq)).map (fun (l : Nat) => ((l : Int), false))
          ++ (revMatches k pre (haystack seq)).map (fun (l : Nat) => ((l : Int) + (pre.length : Int) - 1, true))) :=
  find_kmers_eq' k pre seq hk

-- `ACGGgtACTTGTAC`, prefix `AC` (reverse complement `GT`), k = 2: lower case forces the upper-casing branch,
-- the forward hit at 12 is cut off by the end bound `-k`, the reverse hits are at `loc = 4, 10`
example : Gen.find_kmers { k := 2, pre := [65, 67] } [65, 67, 71, 71, 103, 116, 65, 67, 84, 84, 71, 84, 65, 67]
    = .ok [(0, false), (6, false), (5, true), (11, true)] := by decide +kernel
-- `ACGGGTAC`, prefix `AC`, k = 3 (no lower case: the `for` loop runs to completion)
example : Gen.find_kmers { k := 3, pre := [65, 67] } [65, 67, 71, 71, 71, 84, 65, 67]
    = .ok [(0, false), (5, true)] := by decide
example : Gen.find_kmers { k := 3, pre := [65, 67] } [] = .ok [] := by decide
-- `k = 0` is outside the theorem: `hay.find(pre, start, -0)` searches `hay[start:0]`
example : Gen.find_kmers { k := 0, pre := [65] } [65, 65, 65] = .ok [] := by decide
example : (fwdMatches 0 [65] (haystack [65, 65, 65])) = [0, 1, 2] := by decide

/-! ### `KmerMatch.kmer_indices` -/

/-- Forward match at `pos = loc`: the slice `kmer_indices()` returns selects the model's `fwdKmer`. -/
theorem kmer_indices_fwd (k : Nat) (pre s : List UInt8) (loc : Nat) :
    ∃ a b, Gen.kmer_indices { k := (k : Int), pre := pre } (loc : Int) false = .ok (a, b)
      ∧ Py.slice s (some a) (some b) = fwdKmer k pre.length s loc := by
  refine ⟨((loc + pre.length : Nat) : Int), ((loc + pre.length + k : Nat) : Int), ?_, ?_⟩
  · unfold Gen.kmer_indices kmer_indices.run
    simp only [py_eval]
    congr 2 <;> omega
  · rw [Py.slice_nat]
    rfl

example : Gen.kmer_indices { k := 3, pre := [65, 67] } 0 false = .ok (2, 5) := by decide

/-- Reverse match at `pos = loc + prefix_len - 1` with `k ≤ loc` (which `find_kmers` guarantees by starting the
reverse search at offset `k`): the slice selects the model's `revKmer`.  Without `k ≤ loc` the lower bound
would be negative and Python would count it from the end. -/
theorem kmer_indices_rev (k : Nat) (pre s : List UInt8) (loc : Nat) (hl : k ≤ loc) :
    ∃ a b, Gen.kmer_indices { k := (k : Int), pre := pre } ((loc : Int) + (pre.length : Int) - 1) true = .ok (a, b)
      ∧ Py.slice s (some a) (some b) = revKmer k s loc := by
  refine ⟨((loc - k : Nat) : Int), (loc : Int), ?_, ?_⟩
  · unfold Gen.kmer_indices kmer_indices.run
    simp only [py_eval]
    congr 2 <;> omega
  · rw [Py.slice_nat]
    rfl

example : Gen.kmer_indices { k := 3, pre := [65, 67] } 5 true = .ok (1, 4) := by decide

end GambitV.Tie.Py
