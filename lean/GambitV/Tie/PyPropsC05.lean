import GambitV.Tie.PyChunks
import GambitV.Props.C05

/-!
Property-level statements about the definitions translated from the current Python sources (`GambitV.Gen.*`, regenerated on every run):
the tie theorems composed with the property theorems of `Props/`.  C05: chunking.
-/
namespace GambitV.Tie.Py
open GambitV

/-- the chunks produced by the translated `chunk_slices`, clamped to the length, partition `0 … n-1` in order -/
theorem py_chunks_partition (n size : Nat) (hs : 0 < size) :
    ∃ cs, Gen.chunk_slices (n : Int) (size : Int) = .ok cs
      ∧ cs.flatMap (fun ab => List.range' ab.1.toNat (min ab.2.toNat n - ab.1.toNat)) = List.range n := by
  refine ⟨_, chunk_slices_eq n size hs, ?_⟩
  rw [List.flatMap_map]
  simp only [Int.toNat_natCast]
  exact C05.chunkSlices_partition n size hs

end GambitV.Tie.Py
