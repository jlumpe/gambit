import GambitV.Gen.PyAncestors
import GambitV.Lemmas.PyRt
import GambitV.Lemmas.Lineage

/-!
Tie: `Taxon.ancestors` (db/models.py), the walk along `parent` every classification step rests on, against the
model's `Forest.lineage` / `Forest.properAncestors`.  The other translated functions read `t.ancestors(incself=…)`
as `F.lineage t`; this tie is what justifies that reading.
-/
namespace GambitV.Tie.Py
open GambitV

open GambitV.Py in
/-- the loop of `Taxon.ancestors` standing at `h`: it stops with the rest of the walk appended to what was yielded before -/
private theorem ancestors_loop (F : Forest) (hF : ForestWF F) (hpos : 0 < F.size) (st : Nat) (inc : Bool) :
    ∀ (n : Nat) (h : Option Nat) (ys : List Nat), (F.chain h).length ≤ n →
      Py.whileLoop (n + 1) (fun (s : Gen.taxon_ancestors.St) => (do
        pure (s.taxon).isSome : Py.M Gen.taxon_ancestors.St Gen.taxon_ancestors.Ret Bool)) (fun (s : Gen.taxon_ancestors.St) => (do
        let _ ← Py.guard (s.taxon).isNone .TypeError
        let s : Gen.taxon_ancestors.St := { s with yielded := s.yielded ++ [((s.taxon).getD (0 : Nat))] }
        let s : Gen.taxon_ancestors.St := { s with taxon := (F.parentOf ((s.taxon).getD (0 : Nat))) }
        pure s : Py.M Gen.taxon_ancestors.St Gen.taxon_ancestors.Ret Gen.taxon_ancestors.St))
        { self_t := st, incself := inc, taxon := h, yielded := ys }
      = .ok { self_t := st, incself := inc, taxon := none, yielded := ys ++ F.chain h }
  | n, none, ys, _ => by rw [whileLoop_succ, show F.chain none = [] from rfl, List.append_nil]; rfl
  | 0, some x, ys, hn => by rw [chain_some hF hpos] at hn; simp at hn
  | n + 1, some x, ys, hn => by
    rw [chain_some hF hpos] at hn ⊢
    rw [whileLoop_succ]
    show whileLoop (n + 1) _ _ ({ self_t := st, incself := inc, taxon := F.parentOf x, yielded := ys ++ [x] } : Gen.taxon_ancestors.St) = _
    rw [ancestors_loop F hF hpos st inc n (F.parentOf x) (ys ++ [x]) (by simpa using hn), List.append_assoc]
    rfl

/-- bottom to top, starting with the taxon itself (`incself=True`) or its parent; the fuel `F.size + 1` suffices in a well-formed forest -/
theorem taxon_ancestors_eq (F : Forest) (hF : ForestWF F) (t : Nat) (ht : t < F.size) (inc : Bool) :
    Gen.taxon_ancestors F t inc = .ok (if inc then F.lineage t else F.properAncestors t) := by
  have hpos : 0 < F.size := Nat.zero_lt_of_lt ht
  have key := ancestors_loop F hF hpos t inc F.size (if inc then some t else F.parentOf t) []
    (length_chain_le F _)
  have hc : F.chain (if inc then some t else F.parentOf t) = if inc then F.lineage t else F.properAncestors t := by
    cases inc
    · rw [Forest.properAncestors, lineage_unfold hF hpos t]
      cases F.parentOf t <;> rfl
    · rfl
  unfold Gen.taxon_ancestors
  rw [show Gen.taxon_ancestors.run F { self_t := t, incself := inc, taxon := none, yielded := [] } = _ from key, hc]
  rfl

/-- the reading the other translations use: `t.ancestors(incself=True)` is `F.lineage t` -/
theorem py_ancestors_incself (F : Forest) (hF : ForestWF F) (t : Nat) (ht : t < F.size) :
    Gen.taxon_ancestors F t true = .ok (F.lineage t) := by
  simpa using taxon_ancestors_eq F hF t ht true

theorem py_ancestors_proper (F : Forest) (hF : ForestWF F) (t : Nat) (ht : t < F.size) :
    Gen.taxon_ancestors F t false = .ok (F.properAncestors t) := by
  simpa using taxon_ancestors_eq F hF t ht false

/-- the first ancestor reported with `incself=True` is the taxon itself, and every later one is the parent of the one before -/
theorem py_ancestors_chain (F : Forest) (hF : ForestWF F) (t : Nat) (ht : t < F.size) (l : List Nat)
    (h : Gen.taxon_ancestors F t true = .ok l) :
    l.head? = some t ∧ ∀ i, i + 1 < l.length → F.parentOf (l.getD i 0) = some (l.getD (i + 1) 0) := by
  have hpos : 0 < F.size := Nat.zero_lt_of_lt ht
  rw [py_ancestors_incself F hF t ht] at h
  obtain rfl : F.lineage t = l := by simpa using h
  refine ⟨lineage_head? F hpos t, fun i hi => ?_⟩
  have hi' : i < (F.lineage t).length := Nat.lt_of_succ_lt hi
  have e := (List.take_append_drop i (F.lineage t)).symm
  rw [List.drop_eq_getElem_cons hi', List.drop_eq_getElem_cons hi] at e
  rw [← List.getElem_eq_getD (h := hi'), ← List.getElem_eq_getD (h := hi)]
  exact lineage_step hF e

end GambitV.Tie.Py
