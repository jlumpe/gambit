import GambitV.Gen.PySeqBytes

/-!
Tie (structural fact): `gambit.seq.seq_to_bytes` — the conversion every sequence goes through before it is searched — as it stands in the current
source: bytes and bytearray as they are, text encoded as ASCII character for character, a Biopython `Seq` through `bytes()`.  The models take a
sequence as its bytes; a conversion that dropped or changed characters would shift every position (harness/flow_facts.json; DESIGN §3).
-/
namespace GambitV.Tie.Py

theorem seq_bytes_facts : Gen.pySeqBytes_seqToBytes = true := by decide

end GambitV.Tie.Py
