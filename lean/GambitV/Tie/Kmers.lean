import GambitV.Gen.Kmers
import GambitV.Lemmas.TieKmers

/-!
Tie: the generated (state-passing) translations of the loops in `kmers.pyx` equal the hand-written
models of `Model/Kmers.lean`.  The numbers in front of the docstrings are those of the statement list `notes/Tie_statements.md`.

Each proof unfolds the generated `run` once, names the `for` loop (`generalize … = w`, so the generated
body is picked up by unification and never copied here), and applies a generic loop rule from
`Lemmas/TieKmers.lean` with a per-iteration lemma in terms of the model's per-byte functions.  The three `if`/`elif`
tables of the source are rewritten with `nucCode_ite` (the two encoders), `comp_ite` (`c_revcomp`) and `nucLetter_ite`
(`c_index_to_kmer`), which is where the fields of the generated state are named.
-/
namespace GambitV.Tie.Kmers
open GambitV GambitV.Gen

/-- 1. The generated shift-and-add loop with early return is `encodeU64` (no length hypothesis: both
wrap the same way). -/
theorem c_kmer_to_index_eq (kmer : List UInt8) :
    Gen.c_kmer_to_index kmer =
      (match encodeU64 kmer with
       | some v => { ret := v, exc := false }
       | none => { ret := 0, exc := true }) := by
  unfold Gen.c_kmer_to_index c_kmer_to_index.run
  simp only [bind, Except.bind, pure, Except.pure]
  generalize hw : forRangeFrom _ _ _ _ = w
  have hmain := forRangeFrom_inv_exit hw
    (fun i s => s.kmer = kmer ∧ s.exc = false ∧ encodeU64From s.idx (kmer.drop i) = encodeU64 kmer)
    (fun e => e = { ret := 0, exc := true } ∧ encodeU64 kmer = none) ?step ⟨rfl, rfl, rfl⟩
  case step =>
    clear hw
    rintro i s hlt ⟨h1, h2, h3⟩
    simp only [Int.toNat_natCast, Nat.zero_add] at hlt
    rw [encodeU64From_drop kmer i hlt, List.getElem_eq_getD 0] at h3
    simp only [h1, h2, Int.toNat_natCast, decide_eq_true_eq]
    rw [nucCode_ite (fun d => Except.ok ({ s with
      kmer := kmer, exc := false, idx := s.idx <<< 2 + OfNat.ofNat d, i := i, nuc := kmer.getD i 0 &&& 223 } : c_kmer_to_index.St))]
    cases hd : nucCode (kmer.getD i 0) with
    | some d => rw [hd] at h3; exact Or.inl ⟨_, rfl, rfl, rfl, h3⟩
    | none => rw [hd] at h3; exact Or.inr ⟨_, rfl, rfl, h3.symm⟩
  clear hw
  rcases hmain with ⟨s', rfl, -, h2, h3⟩ | ⟨e, rfl, rfl, h3⟩
  · simp only [Int.toNat_natCast, Nat.zero_add, List.drop_length, encodeU64From] at h3
    simp only [← h3, throw, throwThe, MonadExceptOf.throw, c_kmer_to_index.retWith, c_kmer_to_index.retOf, h2]
  · simp only [h3]

/-- 2. Under the wrapper's guard `k ≤ 32` the generated encoder computes the mathematical index. -/
theorem c_kmer_to_index_sound (kmer : List UInt8) (h : kmer.length ≤ 32) :
    (match (Gen.c_kmer_to_index kmer) with
     | r => if r.exc then encode kmer = none else encode kmer = some r.ret.toNat) := by
  rw [c_kmer_to_index_eq, ← C07.u64_no_wrap kmer h]
  cases encodeU64 kmer <;> simp

/-- 4. The generated decoder writes exactly `decode index k` (`k = |out|`), whatever `out` held. -/
theorem c_index_to_kmer_eq (index : UInt64) (out : List UInt8) :
    (Gen.c_index_to_kmer index out).out = decode index.toNat out.length ∧
    (Gen.c_index_to_kmer index out).fuelOut = false := by
  unfold Gen.c_index_to_kmer c_index_to_kmer.run
  simp only [bind, Except.bind, pure, Except.pure]
  generalize hw : forRangeFrom _ _ _ _ = w
  have hmain := forRangeFrom_inv' hw
    (fun i s => s.k = out.length ∧ s.out.length = out.length ∧
      decode index.toNat out.length = decode s.index.toNat (out.length - i) ++ s.out.drop (out.length - i))
    ?step ⟨rfl, rfl, by simp⟩
  case step =>
    clear hw
    rintro i s - hlt ⟨hk, hlen, hinv⟩
    simp only [Int.toNat_natCast, Nat.zero_add] at hlt
    have hx : (s.index % 4).toNat = s.index.toNat % 4 := by
      rw [UInt64.toNat_mod]; rfl
    have hsh : (s.index >>> 2).toNat = s.index.toNat / 4 := by
      rw [UInt64.toNat_shiftRight]
      have h2 : (2 : UInt64).toNat % 64 = 2 := by decide
      rw [h2, Nat.shiftRight_eq_div_pow]
    have hstep := decode_step s.index.toNat out.length i s.out hlen hlt
    rw [← hx] at hstep
    generalize (s.index % 4).toNat = d at hstep ⊢
    have e0 : ((d : Int) = 0) ↔ d = 0 := Int.natCast_eq_zero
    have e1 : ((d : Int) = 1) ↔ d = 1 := Int.natCast_inj
    have e2 : ((d : Int) = 2) ↔ d = 2 := Int.natCast_inj
    simp only [e0, e1, e2, decide_eq_true_eq, hk]
    rw [nucLetter_ite (fun v => Except.ok ({ s with k := out.length, i := i, nuc_index := d, nuc := v } : c_index_to_kmer.St))]
    refine ⟨_, rfl, rfl, ?_, ?_⟩
    · rw [List.length_set]
      exact hlen
    · rw [hinv, hstep]
      simp only [toNat_sub_sub_one, hsh]
  clear hw
  obtain ⟨s', rfl, -, hlen, hinv⟩ := hmain
  simp only [Int.toNat_natCast, Nat.zero_add, Nat.sub_self, decode, List.drop_zero, List.nil_append] at hinv
  exact ⟨hinv.symm, rfl⟩

/-- 5. The generated reverse-complement loop writes `revcomp seq` into a buffer of the right length. -/
theorem c_revcomp_eq (seq out : List UInt8) (h : out.length = seq.length) :
    (Gen.c_revcomp seq out).out = revcomp seq := by
  unfold Gen.c_revcomp c_revcomp.run
  simp only [bind, Except.bind, pure, Except.pure]
  generalize hw : forRangeFrom _ _ _ _ = w
  have hmain := forRangeFrom_inv' hw
    (fun i s => s.seq = seq ∧ s.n = seq.length ∧ s.out.length = seq.length ∧
      s.out.drop (seq.length - i) = ((seq.take i).map comp).reverse)
    ?step ⟨rfl, rfl, h, by simp [← h]⟩
  case step =>
    clear hw
    rintro i s - hlt ⟨hseq, hn, hlen, hinv⟩
    simp only [Int.toNat_natCast, Nat.zero_add] at hlt
    have hstep := revcomp_step seq s.out i hlt hlen hinv
    simp only [hseq, hn, Int.toNat_natCast, decide_eq_true_eq]
    rw [comp_ite (fun v => Except.ok ({ s with seq := seq, i := i, n := seq.length, nuc := seq.getD i 0, nuc2 := v } : c_revcomp.St))]
    refine ⟨_, rfl, rfl, rfl, ?_, ?_⟩
    · rw [List.length_set]
      exact hlen
    · simp only [toNat_sub_sub_one]
      exact hstep
  clear hw
  obtain ⟨s', rfl, -, -, -, hinv⟩ := hmain
  simp only [Int.toNat_natCast, Nat.zero_add, Nat.sub_self, List.drop_zero] at hinv
  rw [List.take_length] at hinv
  exact hinv

/-- 3a. The generated reverse-complement encoder equals the 64-bit complemented shift-and-add over the
reversed k-mer (no length hypothesis: both wrap the same way). -/
theorem c_kmer_to_index_rc_eq (kmer : List UInt8) :
    Gen.c_kmer_to_index_rc kmer =
      (match encodeRcU64 kmer with
       | some v => { ret := v, exc := false }
       | none => { ret := 0, exc := true }) := by
  unfold Gen.c_kmer_to_index_rc c_kmer_to_index_rc.run
  simp only [bind, Except.bind, pure, Except.pure]
  generalize hw : forRangeFrom _ _ _ _ = w
  have hmain := forRangeFrom_inv_exit hw
    (fun i s => s.kmer = kmer ∧ s.exc = false ∧ s.k = kmer.length ∧
      encodeU64From s.idx ((revcomp kmer).drop i) = encodeRcU64 kmer)
    (fun e => e = { ret := 0, exc := true } ∧ encodeRcU64 kmer = none) ?step ⟨rfl, rfl, rfl, (encodeRcU64_eq kmer).symm⟩
  case step =>
    clear hw
    rintro i s hlt ⟨h1, h2, h4, h3⟩
    simp only [Int.toNat_natCast, Nat.zero_add] at hlt
    rw [encodeU64From_drop _ i (by rw [C07.revcomp_length]; exact hlt), C07.revcomp_get kmer i hlt, List.getElem_eq_getD 0,
      Nat.sub_sub, Nat.add_comm 1, nucCode_comp] at h3
    simp only [h1, h2, h4, toNat_sub_sub_one, decide_eq_true_eq]
    generalize kmer.getD (kmer.length - (i + 1)) 0 = y at h3 ⊢
    rw [nucCode_ite (fun d => Except.ok ({ s with
      kmer := kmer, exc := false, idx := s.idx <<< 2 + OfNat.ofNat (3 - d), i := i, k := kmer.length, nuc := y &&& 223 } : c_kmer_to_index_rc.St))]
    cases hd : nucCode y with
    | some d => rw [hd] at h3; exact Or.inl ⟨_, rfl, rfl, rfl, rfl, h3⟩
    | none => rw [hd] at h3; exact Or.inr ⟨_, rfl, rfl, h3.symm⟩
  clear hw
  rcases hmain with ⟨s', rfl, -, h2, -, h3⟩ | ⟨e, rfl, rfl, h3⟩
  · rw [← C07.revcomp_length kmer] at h3
    simp only [Int.toNat_natCast, Nat.zero_add, List.drop_length, encodeU64From] at h3
    simp only [← h3, throw, throwThe, MonadExceptOf.throw, c_kmer_to_index_rc.retWith, c_kmer_to_index_rc.retOf, h2]
  · simp only [h3]

/-- 3. Under the wrapper's guard `k ≤ 32` the generated reverse-complement encoder computes `encodeRc`. -/
theorem c_kmer_to_index_rc_sound (kmer : List UInt8) (h : kmer.length ≤ 32) :
    (match (Gen.c_kmer_to_index_rc kmer) with
     | r => if r.exc then encodeRc kmer = none else encodeRc kmer = some r.ret.toNat) := by
  rw [c_kmer_to_index_rc_eq, ← encodeRcU64_no_wrap kmer h]
  cases encodeRcU64 kmer <;> simp

/-- 9. The Python-level wrappers as written in the `.pyx`: reject `kmer.shape[0] > 32` before calling the C function, raise when
the C function sets `exc`, and allocate output buffers of length `k` / `len(seq)`.  These are the facts that make the
modelled wrappers `GambitV.kmerToIndex` / `kmerToIndexRc` (guard 32) the meaning of the source text; the equation itself is stated for the
forward wrapper only (`kmerToIndex_eq_generated`), for the reverse one it is what `c_kmer_to_index_rc_sound` gives under the same guard. -/
theorem wrapper_facts :
    Gen.kmerLenGuard = 32 ∧ Gen.kmerRcLenGuard = 32 ∧ Gen.kmerWrappersCanonical = true ∧
    Gen.decodeWrapperCanonical = true ∧ Gen.revcompWrapperCanonical = true := by decide

/-- the modelled wrapper is: guard, then the generated C function -/
theorem kmerToIndex_eq_generated (kmer : List UInt8) :
    kmerToIndex kmer =
      (if kmer.length > Gen.kmerLenGuard then .error .tooLong
       else if (Gen.c_kmer_to_index kmer).exc then .error .invalidChar else .ok (Gen.c_kmer_to_index kmer).ret.toNat) := by
  unfold kmerToIndex
  have hg : Gen.kmerLenGuard = 32 := by decide
  rw [hg]
  by_cases h : kmer.length > 32
  · simp [h]
  · simp only [h, if_false]
    have hs := c_kmer_to_index_sound kmer (by omega)
    simp only at hs
    by_cases he : (Gen.c_kmer_to_index kmer).exc = true
    · simp only [he, if_true] at hs ⊢
      rw [hs]
    · have he' : (Gen.c_kmer_to_index kmer).exc = false := by simpa using he
      simp only [he', Bool.false_eq_true, if_false] at hs ⊢
      rw [hs]

/-! ### 8. Non-vacuity: the generated definitions evaluated on concrete inputs -/

-- "ACGT" ↦ 27; lower case accepted
example : Gen.c_kmer_to_index [65, 67, 71, 84] = { ret := 27, exc := false } := by decide
example : Gen.c_kmer_to_index [97, 99, 103, 116] = { ret := 27, exc := false } := by decide
-- 'N' is rejected: exception flag set, early return
example : Gen.c_kmer_to_index [65, 78, 67] = { ret := 0, exc := true } := by decide
-- reverse complement of "AACG" is "CGTT" ↦ 1*64 + 2*16 + 3*4 + 3 = 111
example : Gen.c_kmer_to_index_rc [65, 65, 67, 71] = { ret := 111, exc := false } := by decide
example : Gen.c_kmer_to_index_rc [65, 78] = { ret := 0, exc := true } := by decide
example : Gen.c_index_to_kmer 27 [0, 0, 0, 0] = { out := [65, 67, 71, 84] } := by decide
example : Gen.c_revcomp [65, 65, 67, 71] [0, 0, 0, 0] = { out := [67, 71, 84, 84] } := by decide
example : Gen.c_revcomp [97, 78, 67] [0, 0, 0] = { out := [71, 78, 116] } := by decide

end GambitV.Tie.Kmers
