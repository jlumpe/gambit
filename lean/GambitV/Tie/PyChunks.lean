import GambitV.Gen.PyChunks
import GambitV.Model.Bulk
import GambitV.Lemmas.PyRt

/-!
Tie: the generated translation of `gambit.util.misc.chunk_slices` equals the hand-written model
`chunkSlices` of `Model/Bulk.lean`.

Two stages: `chunk_loop` is the induction on a loop whose condition and body are given by clean equations
(`hcond`, `hbody`); the theorems unfold the generated `run` once, name the `while` loop with `generalize`
(so the generated body is picked up by unification and never copied here) and discharge the two equations by `rfl`.
-/
namespace GambitV.Tie.Py
open GambitV GambitV.Gen

/-- the pair of `Nat`s as the pair of Python ints -/
abbrev castPair (ab : Nat × Nat) : Int × Int := ((ab.1 : Int), (ab.2 : Int))

/-- The `while start < n` loop of `chunk_slices`, for any condition/body that satisfy the clean equations. -/
theorem chunk_loop (n size : Nat) (hsz : 0 < size)
    (cond : chunk_slices.St → Py.M chunk_slices.St chunk_slices.Ret Bool)
    (body : chunk_slices.St → Py.M chunk_slices.St chunk_slices.Ret chunk_slices.St)
    (hcond : ∀ s, cond s = .ok (decide (s.start < s.n)))
    (hbody : ∀ s, body s = .ok { s with
      stop := s.start + s.size, yielded := s.yielded ++ [(s.start, s.start + s.size)], start := s.start + s.size })
    (fuel start : Nat) (s : chunk_slices.St)
    (hn : s.n = (n : Int)) (hs : s.size = (size : Int)) (hst : s.start = (start : Int))
    (hfuel : n - start ≤ fuel) :
    ∃ s', Py.whileLoop (fuel + 1) cond body s = .ok s' ∧
      s'.yielded = s.yielded ++ (chunkSlicesFrom n size fuel start).map castPair := by
  have stop : ∀ fuel (s : chunk_slices.St), ¬ s.start < s.n → Py.whileLoop (fuel + 1) cond body s = .ok s := by
    intro fuel s h
    rw [Py.whileLoop_succ, hcond, decide_eq_false h]
  induction fuel generalizing start s with
  | zero => exact ⟨s, stop 0 s (by rw [hn, hst, Int.ofNat_lt]; omega), by simp [chunkSlicesFrom]⟩
  | succ fuel ih =>
    by_cases hlt : start < n
    · rw [Py.whileLoop_succ, hcond, decide_eq_true (by rw [hn, hst]; exact Int.ofNat_lt.2 hlt)]
      simp only [hbody]
      obtain ⟨s', h1, h2⟩ := ih (start + size)
        { s with stop := s.start + s.size, yielded := s.yielded ++ [(s.start, s.start + s.size)],
                 start := s.start + s.size }
        hn hs (by simp only [hst, hs]; rfl) (by omega)
      refine ⟨s', h1, ?_⟩
      rw [h2]
      simp only [chunkSlicesFrom, if_pos hlt, List.map_cons, List.append_assoc, List.singleton_append,
        hst, hs, castPair, Int.natCast_add]
    · exact ⟨s, stop _ s (by rw [hn, hst]; exact fun h => hlt (Int.ofNat_lt.1 h)), by simp [chunkSlicesFrom, hlt]⟩

/-- `chunk_loop` in the form used after `generalize hw : Py.whileLoop _ _ _ _ = w`. -/
theorem chunk_loop' {fuel : Nat} {cond : chunk_slices.St → Py.M chunk_slices.St chunk_slices.Ret Bool}
    {body : chunk_slices.St → Py.M chunk_slices.St chunk_slices.Ret chunk_slices.St}
    {s : chunk_slices.St} {w : Py.M chunk_slices.St chunk_slices.Ret chunk_slices.St}
    (hw : Py.whileLoop (fuel + 1) cond body s = w) (n size : Nat) (hsz : 0 < size)
    (hcond : ∀ s, cond s = .ok (decide (s.start < s.n)))
    (hbody : ∀ s, body s = .ok { s with
      stop := s.start + s.size, yielded := s.yielded ++ [(s.start, s.start + s.size)], start := s.start + s.size })
    (start : Nat) (hn : s.n = (n : Int)) (hs : s.size = (size : Int)) (hst : s.start = (start : Int))
    (hfuel : n - start ≤ fuel) :
    ∃ s', w = .ok s' ∧ s'.yielded = s.yielded ++ (chunkSlicesFrom n size fuel start).map castPair :=
  hw ▸ chunk_loop n size hsz cond body hcond hbody fuel start s hn hs hst hfuel

/-- `chunk_slices(n, size)` for `n ≥ 0`, `size ≥ 1` is the model's list of un-clamped `(start, stop)` pairs. -/
theorem chunk_slices_eq (n size : Nat) (h : 0 < size) :
    Gen.chunk_slices (n : Int) (size : Int)
      = .ok ((chunkSlices n size).map (fun ab => ((ab.1 : Int), (ab.2 : Int)))) := by
  unfold Gen.chunk_slices chunk_slices.run
  have hsz : decide ((size : Int) ≤ 0) = false := by
    simp only [decide_eq_false_iff_not]; omega
  simp only [py_eval, hsz, Int.toNat_natCast]
  generalize hw : Py.whileLoop _ _ _ _ = w
  obtain ⟨s', rfl, h2⟩ := chunk_loop' hw n size h (fun _ => rfl) (fun _ => rfl) 0 rfl rfl rfl
    (Nat.sub_le _ _)
  simp only [Py.finish_ok, h2, List.nil_append, chunkSlices]

example : Gen.chunk_slices 10 3 = .ok [(0, 3), (3, 6), (6, 9), (9, 12)] := by decide
example : Gen.chunk_slices 6 2 = .ok [(0, 2), (2, 4), (4, 6)] := by decide

/-- `chunk_slices(n, size)` with `size ≤ 0` raises `ValueError` (before anything is yielded). -/
theorem chunk_slices_bad (n size : Int) (h : size ≤ 0) :
    Gen.chunk_slices n size = .raised .ValueError := by
  unfold Gen.chunk_slices chunk_slices.run
  have hsz : decide (size ≤ 0) = true := by simpa using h
  simp only [py_eval, hsz]

example : Gen.chunk_slices 10 0 = .raised .ValueError := by decide
example : Gen.chunk_slices 10 (-3) = .raised .ValueError := by decide

/-- `chunk_slices(n, size)` with `n ≤ 0` (and a valid size) yields nothing. -/
theorem chunk_slices_neg (n size : Int) (hn : n ≤ 0) (h : 0 < size) :
    Gen.chunk_slices n size = .ok [] := by
  unfold Gen.chunk_slices chunk_slices.run
  have hsz : decide (size ≤ 0) = false := by
    simp only [decide_eq_false_iff_not]; omega
  have hc : decide ((0 : Int) < n) = false := by
    simp only [decide_eq_false_iff_not]; omega
  simp only [py_eval, hsz, Py.whileLoop_succ, hc]

example : Gen.chunk_slices 0 3 = .ok [] := by decide
example : Gen.chunk_slices (-5) 3 = .ok [] := by decide

end GambitV.Tie.Py
