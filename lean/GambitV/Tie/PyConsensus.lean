import GambitV.Gen.PyConsensus
import GambitV.Lemmas.PyRt
import GambitV.Lemmas.TiePyConsensus

/-!
Tie of the machine-translated `consensus_taxon` (`GambitV.Gen.consensus_taxon`, from gambit/classify.py)
to the hand-written model `consensusPaths` (`Model/Taxonomy.lean`).

Two stages.  (1) The two loop bodies of the generated term are named (`innerBody`, `outerBody`; `run_eq`
is `rfl`) and shown to compute the clean step `stepNode` on `(trunk, split)`.  (2) `stepNode` on
`(F.lineage c, split)` is `consensusStep` on `(F.path c, split)` (`stepNode_consensusStep`, in
`Lemmas/TiePyConsensus.lean`); an invariant over the outer `for` then gives the statement.
-/
namespace GambitV.Tie.Py
open GambitV GambitV.Gen GambitV.TieCons

abbrev St := consensus_taxon.St
abbrev Ret := consensus_taxon.Ret

/-- body of `for a in taxon.ancestors():` -/
def innerBody (F : Forest) : Nat → St → Py.M St Ret St :=
  fun x (s : St) => (do
    let s : St := { s with a := x }
    let s ← Py.tryExcept ((fun (s : St) => (do
        let _ ← Py.guard (Py.index? s.trunk s.a).isNone .ValueError
        let s : St := { s with i := (((Py.index? s.trunk s.a).getD 0 : Nat) : Int) }
        pure s : Py.M St Ret St)) s) .ValueError ((fun (s : St) => (do
        let _ ← (throw (Py.Ctl.cont s) : Py.M St Ret Unit)
        pure s : Py.M St Ret St)) s)
    let s ← (if (decide (s.i = (0 : Int))) then
        (fun (s : St) => (do
        let s ← (if (!s.split) then
            (fun (s : St) => (do
            let s : St := { s with trunk := (F.lineage s.taxon) }
            pure s : Py.M St Ret St)) s
          else pure s)
        pure s : Py.M St Ret St)) s
      else (fun (s : St) => (do
        let s : St := { s with trunk := (Py.slice s.trunk (some s.i) none) }
        let s : St := { s with split := true }
        pure s : Py.M St Ret St)) s)
    let _ ← (throw (Py.Ctl.brk s) : Py.M St Ret Unit)
    pure s : Py.M St Ret St)

/-- body of `for taxon in taxa[1:]:` -/
def outerBody (F : Forest) : Nat → St → Py.M St Ret St :=
  fun x (s : St) => (do
    let s : St := { s with taxon := x }
    let s ← (if ((s.trunk).contains s.taxon) then
        (fun (s : St) => (do
        let _ ← (throw (Py.Ctl.cont s) : Py.M St Ret Unit)
        pure s : Py.M St Ret St)) s
      else pure s)
    let r ← Py.forEach (F.properAncestors s.taxon) (innerBody F) s
    let s : St := r.1
    let s ← (if r.2 then
        (fun (s : St) => (do
        let _ ← (throw (Py.Ctl.ret (none, (s.taxa).eraseDups)) : Py.M St Ret Unit)
        pure s : Py.M St Ret St)) s
      else pure s)
    pure s : Py.M St Ret St)

/-- the generated body, with the two loop bodies named -/
theorem run_eq (F : Forest) (s : St) :
    consensus_taxon.run F s = (do
      let s : St := { s with taxa := s.taxa }
      let s ← (if (!(!(s.taxa).isEmpty)) then
          (fun (s : St) => (do
          let _ ← (throw (Py.Ctl.ret (none, [])) : Py.M St Ret Unit)
          pure s : Py.M St Ret St)) s
        else pure s)
      let _ ← Py.guard (Py.getItem? s.taxa (0 : Int)).isNone .IndexError
      let s : St := { s with trunk := (F.lineage ((Py.getItem? s.taxa (0 : Int)).getD (0 : Nat))) }
      let s : St := { s with split := false }
      let r ← Py.forEach (Py.slice s.taxa (some (1 : Int)) none) (outerBody F) s
      let s : St := r.1
      let s : St := { s with others := (((s.taxa).filter (fun x_t => (!((s.trunk).contains x_t))))).eraseDups }
      let _ ← Py.guard (Py.getItem? s.trunk (0 : Int)).isNone .IndexError
      let _ ← (throw (Py.Ctl.ret ((some ((Py.getItem? s.trunk (0 : Int)).getD (0 : Nat))), s.others)) : Py.M St Ret Unit)
      pure s) := rfl

theorem innerBody_not_mem (F : Forest) (x : Nat) (s : St) (h : x ∉ s.trunk) :
    innerBody F x s = .error (.cont { s with a := x }) := by
  simp [innerBody, Py.index?_eq_none h, Py.tryExcept, Py.Exc.catches, throw, throwThe,
    MonadExceptOf.throw, bind, Except.bind]

theorem innerBody_mem (F : Forest) (x : Nat) (s : St) (h : x ∈ s.trunk) :
    ∃ s', innerBody F x s = .error (.brk s') ∧ s'.taxa = s.taxa ∧
      (s'.trunk, s'.split) = meetAt F (s.trunk, s.split) s.taxon x := by
  obtain ⟨pre, rest, e, hi⟩ := Py.index?_of_mem h
  by_cases h0 : pre.length = 0
  · cases hsp : s.split <;>
      simp [innerBody, meetAt, hi, h0, hsp, Py.tryExcept, throw, throwThe, MonadExceptOf.throw, bind,
        Except.bind, pure, Except.pure]
  · simp [innerBody, meetAt, hi, h0, Py.tryExcept, throw, throwThe, MonadExceptOf.throw, bind,
      Except.bind, pure, Except.pure, Py.slice_nat_none]

/-- the inner `for`: finds the first ancestor lying in the trunk; the flag tells whether one exists -/
theorem inner_loop (F : Forest) : ∀ (anc : List Nat) (s : St),
    ∃ s', s'.taxa = s.taxa ∧
      match anc.find? (fun a => s.trunk.contains a) with
      | none => Py.forEach anc (innerBody F) s = .ok (s', true)
      | some a => Py.forEach anc (innerBody F) s = .ok (s', false) ∧
          (s'.trunk, s'.split) = meetAt F (s.trunk, s.split) s.taxon a
  | [], s => ⟨s, rfl, rfl⟩
  | x :: anc, s => by
    by_cases h : x ∈ s.trunk
    · obtain ⟨s', hb, ht, hm⟩ := innerBody_mem F x s h
      refine ⟨s', ht, ?_⟩
      have : (s.trunk.contains x) = true := by simpa using h
      rw [List.find?_cons]
      simp only [this]
      exact ⟨by rw [Py.forEach_cons, hb], hm⟩
    · have hb := innerBody_not_mem F x s h
      have : (s.trunk.contains x) = false := by simpa using h
      rw [List.find?_cons, Py.forEach_cons, hb]
      simp only [this]
      exact inner_loop F anc { s with a := x }

/-- one iteration of the outer `for` is `stepNode` on the `trunk`, `split` fields -/
theorem outerBody_spec (F : Forest) (x : Nat) (s : St) :
    match stepNode F (s.trunk, s.split) x with
    | some ts' => ∃ s', (outerBody F x s = .ok s' ∨ outerBody F x s = .error (.cont s')) ∧
        s'.taxa = s.taxa ∧ s'.trunk = ts'.1 ∧ s'.split = ts'.2
    | none => outerBody F x s = .error (.ret (none, s.taxa.eraseDups)) := by
  unfold stepNode
  by_cases h : s.trunk.contains x = true
  · simp only [h, if_true]
    refine ⟨{ s with taxon := x }, Or.inr ?_, rfl, rfl, rfl⟩
    have h' : x ∈ s.trunk := by simpa using h
    simp [outerBody, h', throw, throwThe, MonadExceptOf.throw, bind, Except.bind]
  · have h : s.trunk.contains x = false := by simpa using h
    simp only [h, Bool.false_eq_true, if_false]
    obtain ⟨s', ht, hl⟩ := inner_loop F (F.properAncestors x) { s with taxon := x }
    have hout : outerBody F x s =
        (Py.forEach (F.properAncestors x) (innerBody F) { s with taxon := x } >>= fun r =>
          if r.2 then .error (.ret (none, r.1.taxa.eraseDups)) else .ok r.1) := by
      simp only [outerBody, h]
      rfl
    change match (F.properAncestors x).find? (fun a => s.trunk.contains a) with
      | none => _ | some a => _ at hl
    cases hf : (F.properAncestors x).find? (fun a => s.trunk.contains a) with
    | none =>
      rw [hf] at hl
      simp only
      rw [hout, hl]
      simp only [bind, Except.bind, if_true, ht]
    | some a =>
      rw [hf] at hl
      simp only
      refine ⟨s', Or.inl ?_, ht, ?_, ?_⟩
      · rw [hout, hl.1]; rfl
      · exact congrArg Prod.fst hl.2
      · exact congrArg Prod.snd hl.2

/-- the outer `for` against `consensusFold`: `trunk` is the lineage of a node `c'` and the model's running consensus
is `F.path c'`; the loop returns early exactly when the fold fails -/
theorem outer_loop (F : Forest) (hF : ForestWF F) (taxa : List Nat) :
    ∀ (xs : List Nat), (∀ x ∈ xs, x < F.size) → ∀ (s : St) (c : Nat), c < F.size →
      s.taxa = taxa → s.trunk = F.lineage c →
      match consensusFold { c := F.path c, split := s.split } (xs.map F.path) with
      | some tr => ∃ s' c', Py.forEach xs (outerBody F) s = .ok (s', true) ∧ s'.taxa = taxa ∧
          c' < F.size ∧ s'.trunk = F.lineage c' ∧ tr.c = F.path c'
      | none => Py.forEach xs (outerBody F) s = .error (.ret (none, taxa.eraseDups))
  | [], _, s, c, hc, hs, htr => ⟨s, c, rfl, hs, hc, htr, rfl⟩
  | x :: xs, hxs, s, c, hc, hs, htr => by
    have hx : x < F.size := hxs x List.mem_cons_self
    have hxs' : ∀ y ∈ xs, y < F.size := fun y hy => hxs y (List.mem_cons_of_mem _ hy)
    have h1 := outerBody_spec F x s
    have h2 := stepNode_consensusStep F hF hc hx s.split
    rw [htr] at h1
    rw [List.map_cons, consensusFold, Py.forEach_cons]
    cases hst : stepNode F (F.lineage c, s.split) x with
    | none =>
      rw [hst] at h1 h2
      simp only at h1 h2
      rw [h2, h1, hs]
    | some ts' =>
      obtain ⟨tr', sp'⟩ := ts'
      rw [hst] at h1 h2
      simp only at h1 h2
      obtain ⟨s', hb, hs', htr', hsp'⟩ := h1
      obtain ⟨c', hc', e', h2⟩ := h2
      rw [h2]
      have ih := outer_loop F hF taxa xs hxs' s' c' hc' (hs'.trans hs) (htr'.trans e')
      rw [hsp'] at ih
      rcases hb with hb | hb <;> rw [hb] <;> exact ih

/-- On a well-formed forest and distinct nodes of it, the translated `consensus_taxon` returns (no
exception, no fuel-out) the node whose root-first path is the model's consensus path, and the `others`
list of the nodes whose paths are the model's `others`. -/
theorem consensus_taxon_eq (F : Forest) (hF : ForestWF F) (taxa : List Nat)
    (hT : ∀ t ∈ taxa, t < F.size) (hN : taxa.Nodup) :
    ∃ c os, Gen.consensus_taxon F taxa = .ok (c, os)
      ∧ (consensusPaths (taxa.map F.path)).1 = c.map F.path
      ∧ (consensusPaths (taxa.map F.path)).2 = os.map F.path := by
  cases taxa with
  | nil => exact ⟨none, [], rfl, rfl, rfl⟩
  | cons t ts =>
    have ht : t < F.size := hT t List.mem_cons_self
    have hts : ∀ y ∈ ts, y < F.size := fun y hy => hT y (List.mem_cons_of_mem _ hy)
    have hl := outer_loop F hF (t :: ts) ts hts
      { taxa := t :: ts, trunk := F.lineage t, split := false, taxon := 0, a := 0, i := 0, others := [] }
      t ht rfl rfl
    simp only at hl
    have h0 : ∀ xs : List Nat, Py.getItem? xs (0 : Int) = xs.head? := fun xs =>
      (Py.getItem?_nat xs 0).trans List.head?_eq_getElem?.symm
    have h1 : ∀ xs : List Nat, Py.slice xs (some (1 : Int)) none = xs.drop 1 := fun xs => Py.slice_nat_none xs 1
    unfold Gen.consensus_taxon
    rw [run_eq]
    simp only [List.isEmpty_cons, Bool.not_false, Bool.not_true, h0, h1,
      List.drop_one, List.map_cons, consensusPaths]
    cases hfold : consensusFold { c := F.path t, split := false } (ts.map F.path) with
    | none =>
      rw [hfold] at hl
      simp only at hl
      refine ⟨none, t :: ts, ?_, rfl, rfl⟩
      simp [bind, Except.bind, pure, Except.pure, hl, eraseDups_of_nodup hN]
    | some tr =>
      rw [hfold] at hl
      simp only at hl
      obtain ⟨s', c', hl, hs', hc', htr', hc⟩ := hl
      have hfilt : ∀ p : Nat → Bool, ((t :: ts).filter p).eraseDups = (t :: ts).filter p :=
        fun p => eraseDups_of_nodup (hN.sublist List.filter_sublist)
      refine ⟨some c', (t :: ts).filter (fun x => !(F.lineage c').contains x), ?_, ?_, ?_⟩
      · simp [bind, Except.bind, pure, Except.pure, hl, hs', htr',
          lineage_head? F (Nat.zero_lt_of_lt hc') c', throw, throwThe, MonadExceptOf.throw, hfilt]
      · simp [hc]
      · simp only [hc]
        rw [← List.map_cons, List.filter_map]
        congr 1
        apply List.filter_congr
        intro x _
        simp only [Function.comp, lineage_contains hF (Nat.zero_lt_of_lt hc')]

/-! ### evaluation on a concrete forest -/

def exF : Forest :=
  { parent := [none, some 0, some 0, some 1, none], thr := [none, none, none, none, none],
    report := [true, true, true, true, true] }

example : Gen.consensus_taxon exF [1, 3, 2] = .ok (some 0, [1, 3, 2]) := by decide
example : Gen.consensus_taxon exF [1, 4] = .ok (none, [1, 4]) := by decide
example : Gen.consensus_taxon exF [3, 1] = .ok (some 3, []) := by decide
example : Gen.consensus_taxon exF [] = .ok (none, []) := by decide

end GambitV.Tie.Py
