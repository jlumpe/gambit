import GambitV.Gen.PyDmatCsv
import GambitV.Model.Cli
import GambitV.Lemmas.PyRt

/-!
Tie: `cluster.dump_dmat_csv` as it stands in the *current* source, read as the list of rows it hands to the csv writer (harness/py2lean.py,
`csv_rows_prepass`: the `with` block opened on the destination is its body, the writer the list of rows written so far, `[a, *b]` is `[a] ++ b`),
against the model `distCsv` of the distance-matrix file (C16): a header row with the corner cell and the column labels, then one row per
row label with its distances formatted with four decimals.  Core Lean only.
-/
namespace GambitV.Tie.Py
open GambitV

private theorem formatKnown_04f : Py.formatKnown "0.4f".toList = true := by
  simp [Py.formatKnown]

/-- the rows written for a matrix with as many rows as row labels -/
theorem dump_dmat_csv_eq (dmat : List (List UInt32)) (rowIds colIds : List (List Char)) (corner : Option (List Char))
    (hlen : rowIds.length = dmat.length) :
    Gen.dump_dmat_csv () dmat rowIds colIds corner "0.4f".toList
      = .ok (((corner.getD []) :: colIds) :: (rowIds.zip dmat).map (fun rc => rc.1 :: rc.2.map (fun b => (F32.fmt4 b).toList))) := by
  unfold Gen.dump_dmat_csv Gen.dump_dmat_csv.run
  simp only [py_eval, hlen, ne_eq, not_true_eq_false, decide_false]
  refine Py.finish_bind_loop _ (Py.forEach_inv rfl
    (fun pre s => s.writer = [((corner.getD []) :: colIds)] ++ pre.map (fun rc => rc.1 :: rc.2.map (fun b => (F32.fmt4 b).toList))
      ∧ s.fmt = "0.4f".toList)
    (by
      intro pre x _ s _ ⟨hwr, hfmt⟩
      generalize hw2 : Py.forEach _ _ _ = w2
      obtain ⟨s2, rfl, hv, hwr2, hfmt2, hrow⟩ := Py.forEach_inv hw2
        (fun pre2 s2 => s2.values_str = pre2.map (fun b => (F32.fmt4 b).toList) ∧ s2.writer = s.writer ∧ s2.fmt = "0.4f".toList
          ∧ s2.row_id = x.1)
        (by
          intro pre2 d _ s2 _ ⟨h1, h2, h3, h4⟩
          simp only [h3, formatKnown_04f, Bool.not_true]
          exact ⟨_, .inl rfl, by simp [h1, Py.formatScore], h2, rfl, h4⟩)
        ⟨rfl, rfl, hfmt, rfl⟩
      exact ⟨_, .inl rfl, by simp [hv, hwr2, hwr, hrow], hfmt2⟩)
    ⟨by simp, rfl⟩) ?_
  rintro s' ⟨hI, -⟩
  simp [py_eval, hI]

/-- row labels and matrix rows of different number: `zip_strict` raises, nothing is returned -/
theorem dump_dmat_csv_bad (dmat : List (List UInt32)) (rowIds colIds : List (List Char)) (corner : Option (List Char)) (fmt : List Char)
    (hlen : rowIds.length ≠ dmat.length) :
    Gen.dump_dmat_csv () dmat rowIds colIds corner fmt = .raised .ValueError := by
  unfold Gen.dump_dmat_csv Gen.dump_dmat_csv.run
  simp [bind, Except.bind, Py.guard, Py.finish, hlen]

/-- the file the distance command writes (no corner text, default csv dialect) is the model's `distCsv` of the labels and the matrix -/
theorem py_dist_csv (dmat : List (List UInt32)) (rowIds colIds : List (List Char)) (hlen : rowIds.length = dmat.length) :
    ∃ rows, Gen.dump_dmat_csv () dmat rowIds colIds none "0.4f".toList = .ok rows ∧ writeCsv ['\r', '\n'] rows = distCsv rowIds colIds dmat := by
  exact ⟨_, dump_dmat_csv_eq dmat rowIds colIds none hlen, rfl⟩

/-- cell (i, j) of the written table is the four-decimal rendering of `dmat[i][j]`, row i starts with row label i, the header carries the column labels in order -/
theorem py_dist_csv_cells (dmat : List (List UInt32)) (rowIds colIds : List (List Char)) (hlen : rowIds.length = dmat.length)
    (rows : List (List (List Char))) (h : Gen.dump_dmat_csv () dmat rowIds colIds none "0.4f".toList = .ok rows) :
    rows.length = rowIds.length + 1 ∧ rows.head? = some ([] :: colIds)
    ∧ ∀ i, i < rowIds.length → rows[i + 1]? = some (rowIds.getD i [] :: (dmat.getD i []).map (fun b => (F32.fmt4 b).toList)) := by
  rw [dump_dmat_csv_eq dmat rowIds colIds none hlen] at h
  obtain rfl : _ = rows := by simpa using h
  refine ⟨by simp [hlen], by simp, ?_⟩
  intro i hi
  have hi' : i < dmat.length := by omega
  simp only [List.getD_eq_getElem?_getD, List.getElem?_cons_succ, List.getElem?_map, List.getElem?_eq_getElem hi,
    List.getElem?_eq_getElem hi', Option.getD_some]
  rw [List.getElem?_eq_getElem (by simp only [List.length_zip]; omega)]
  simp

end GambitV.Tie.Py
