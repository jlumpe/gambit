import GambitV.Gen.PyCliFacts

/-!
Tie: where the k-mer parameters settled by the translated fragments (`Tie/PyParams.lean`) go, read off the *current* sources by
harness/pytrace.py on every run: `gambit dist` and `gambit signatures create` compute every signature with that one `kspec` and do not
assign the name again; `gambit query -s` compares the file's parameters with the database's and raises before the query is run;
`query_parse` computes query signatures with the database's parameters.
-/
namespace GambitV.Tie.Py

theorem cli_structural_facts :
    Gen.pyDistUsesKspec = true ∧ Gen.pyCreateUsesKspec = true ∧ Gen.pyQuerySigChecked = true ∧ Gen.pyQueryFilesUseDb = true := by
  decide

end GambitV.Tie.Py
