import GambitV.Gen.PyMetaRules
import GambitV.Model.MetaAttrs
import GambitV.Lemmas.ListAux

/-!
Tie: which attribute of the HDF5 group holds which field, as the writing side (`_init_attrs`, `write_metadata`) and the reading side
(`HDF5Signatures.__init__`, `read_metadata`) of the *current* source say (tables read by harness/pytrace.py on every run), and the
round trip through them: what the reader reads is what the writer wrote, for every header.
-/
namespace GambitV.Tie.Py
open GambitV GambitV.MetaAttrs

theorem meta_writer_eq : Gen.pyMetaWriter = writerTable := rfl
theorem meta_reader_eq : Gen.pyMetaReader = readerTable := rfl
theorem meta_translated : Gen.pyMetaRules.untranslatable = false := by decide +kernel

/-- Every lookup below (`getAttr`, `fieldOf`, `lookupRow`) is `(st.find? (·.1 == n)).map (·.2)` in a list with pairwise distinct keys; the entry is
given by its position, so that no two names are ever compared. -/
private theorem find?_at {β : Type} {st : List (String × β)} (hnd : (st.map (·.1)).Nodup) (i : Nat) {n : String} {v : β}
    (h : st[i]? = some (n, v)) : (st.find? (·.1 == n)).map (·.2) = some v := by
  rw [find?_key (·.1) hnd (List.mem_of_getElem? h)]
  rfl

/-- stores under pairwise distinct names do not overwrite each other: the store is the table, row by row -/
private theorem foldl_write (h : Header) (tbl : List (String × Src)) :
    ∀ acc : List (String × AttrV), (acc.map (·.1) ++ tbl.map (·.1)).Nodup →
      tbl.foldl (fun st row => (st.filter (·.1 != row.1)) ++ [(row.1, row.2.value h)]) acc
        = acc ++ tbl.map (fun row => (row.1, row.2.value h)) := by
  induction tbl with
  | nil => intro acc _; simp
  | cons r t ih =>
    intro acc hnd
    have hacc : acc.filter (·.1 != r.1) = acc := by
      rw [List.filter_eq_self]
      intro x hx
      have hd := (List.nodup_append.mp hnd).2.2 x.1 (List.mem_map_of_mem hx) r.1 (by simp)
      simpa using hd
    rw [List.foldl_cons, hacc, ih (acc ++ [(r.1, r.2.value h)]) (by simpa using hnd)]
    simp

private theorem writerTable_nodup : (writerTable.map (·.1)).Nodup := by decide +kernel

private theorem readerTable_nodup : (readerTable.map (·.1)).Nodup := by decide +kernel

/-- the attributes the model's writer stores -/
theorem writeAttrs_model (k : Nat) (pre : String) (id name idAttr version description extra : Option String) :
    writeAttrs writerTable (mkHeader k pre id name idAttr version description extra) =
      [("gambit_signatures_version", .int 1), ("kmerspec_k", .int k), ("kmerspec_prefix", .text pre),
       ("id", optV id), ("name", optV name), ("id_attr", optV idAttr), ("version", optV version), ("description", optV description),
       ("extra", optV extra)] := by
  generalize hH : mkHeader k pre id name idAttr version description extra = H
  -- the field names of `mkHeader` are `writerTable`'s names from the fourth on (by evaluation), hence distinct
  have hnd : (H.fields.map (·.1)).Nodup := hH ▸ (List.drop_sublist 3 _).nodup writerTable_nodup
  have hId : (H.fields.find? (·.1 == "id")).map (·.2) = some id := find?_at hnd 0 (hH ▸ rfl)
  have hName : (H.fields.find? (·.1 == "name")).map (·.2) = some name := find?_at hnd 1 (hH ▸ rfl)
  have hAttr : (H.fields.find? (·.1 == "id_attr")).map (·.2) = some idAttr := find?_at hnd 2 (hH ▸ rfl)
  have hVer : (H.fields.find? (·.1 == "version")).map (·.2) = some version := find?_at hnd 3 (hH ▸ rfl)
  have hDesc : (H.fields.find? (·.1 == "description")).map (·.2) = some description := find?_at hnd 4 (hH ▸ rfl)
  have hExtra : (H.fields.find? (·.1 == "extra")).map (·.2) = some extra := find?_at hnd 5 (hH ▸ rfl)
  rw [writeAttrs, foldl_write _ writerTable [] writerTable_nodup]
  simp only [List.nil_append, writerTable, List.map_cons, List.map_nil, Src.value, fieldOf, hId, hName, hAttr, hVer, hDesc, hExtra]
  subst hH
  rfl

private theorem readOpt_optV (st : List (String × AttrV)) (n : String) (o : Option String) (h : getAttr st n = some (optV o)) :
    readOpt st n = some o := by
  cases o <;> simp [readOpt, h, optV]

/-- round trip on the model's tables: every header is read back as it was written (`None` fields included) -/
theorem meta_roundtrip (k : Nat) (pre : String) (id name idAttr version description extra : Option String) :
    readHeader readerTable (writeAttrs writerTable (mkHeader k pre id name idAttr version description extra))
      = some (mkHeader k pre id name idAttr version description extra) := by
  rw [writeAttrs_model]
  generalize hS : ([("gambit_signatures_version", AttrV.int 1), ("kmerspec_k", .int k), ("kmerspec_prefix", .text pre),
      ("id", optV id), ("name", optV name), ("id_attr", optV idAttr), ("version", optV version), ("description", optV description),
      ("extra", optV extra)] : List (String × AttrV)) = S
  -- the names in the store are `writerTable`'s (by evaluation), hence distinct
  have hnd : (S.map (·.1)).Nodup := hS ▸ writerTable_nodup
  have gV : getAttr S "gambit_signatures_version" = some (.int 1) := find?_at hnd 0 (hS ▸ rfl)
  have gK : getAttr S "kmerspec_k" = some (.int k) := find?_at hnd 1 (hS ▸ rfl)
  have gP : getAttr S "kmerspec_prefix" = some (.text pre) := find?_at hnd 2 (hS ▸ rfl)
  have gId : getAttr S "id" = some (optV id) := find?_at hnd 3 (hS ▸ rfl)
  have gName : getAttr S "name" = some (optV name) := find?_at hnd 4 (hS ▸ rfl)
  have gAttr : getAttr S "id_attr" = some (optV idAttr) := find?_at hnd 5 (hS ▸ rfl)
  have gVer : getAttr S "version" = some (optV version) := find?_at hnd 6 (hS ▸ rfl)
  have gDesc : getAttr S "description" = some (optV description) := find?_at hnd 7 (hS ▸ rfl)
  have gExtra : getAttr S "extra" = some (optV extra) := find?_at hnd 8 (hS ▸ rfl)
  have hv : lookupRow readerTable "format_version" = some ("gambit_signatures_version", .int) := find?_at readerTable_nodup 2 rfl
  have hk : lookupRow readerTable "k" = some ("kmerspec_k", .int) := find?_at readerTable_nodup 0 rfl
  have hp : lookupRow readerTable "pre" = some ("kmerspec_prefix", .text) := find?_at readerTable_nodup 1 rfl
  have hf : readerTable.filter (fun r => r.2.2 == .opt || r.2.2 == .json) = readerTable.drop 3 := rfl
  unfold readHeader
  rw [hv, hk, hp, hf]
  simp only [readInt, readText, gV, gK, gP, readerTable, List.drop_succ_cons, List.drop_zero, List.mapM_cons, List.mapM_nil,
    readOpt_optV _ _ _ gId, readOpt_optV _ _ _ gName, readOpt_optV _ _ _ gAttr, readOpt_optV _ _ _ gVer,
    readOpt_optV _ _ _ gDesc, readOpt_optV _ _ _ gExtra, Option.map_some, bind, Option.bind, pure]
  subst hS
  rfl

/-- … and on the tables as the current source has them -/
theorem py_meta_roundtrip (k : Nat) (pre : String) (id name idAttr version description extra : Option String) :
    readHeader Gen.pyMetaReader (writeAttrs Gen.pyMetaWriter (mkHeader k pre id name idAttr version description extra))
      = some (mkHeader k pre id name idAttr version description extra) := by
  rw [meta_writer_eq, meta_reader_eq]; exact meta_roundtrip ..

/-- no attribute name is written twice, so nothing the writer stores is overwritten by a later store -/
theorem py_meta_names_distinct : (Gen.pyMetaWriter.map (·.1)).Nodup :=
  meta_writer_eq ▸ writerTable_nodup

/-- a reader that looked for one field under another field's name would not round-trip: the tie is not vacuous -/
example : readHeader [("k", "kmerspec_k", .int), ("pre", "kmerspec_prefix", .text), ("format_version", "gambit_signatures_version", .int),
                      ("id", "name", .opt), ("name", "id", .opt)]
            (writeAttrs writerTable (mkHeader 11 "ATGAC" (some "a") (some "b") none none none none))
          ≠ some { version := 1, k := 11, pre := "ATGAC", fields := [("id", some "a"), ("name", some "b")] } := by decide +kernel

end GambitV.Tie.Py
