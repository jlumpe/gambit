import GambitV.Gen.PySigList
import GambitV.Model.Indexing
import GambitV.Lemmas.PyRt
import GambitV.Lemmas.Indexing

/-!
Tie: the mutation methods of the list-backed collection (`SignatureList.__setitem__`, `__delitem__`, `insert`, and `_getitem_int`),
translated from the current source, against the list semantics of the model (`applyMut`, Python `list`).
-/
namespace GambitV.Tie.Py
open GambitV

/-- signatures as the translated methods see them -/
def sigsZ (xs : List (List Nat)) : List (List Int) := xs.map (fun s => s.map (fun (x : Nat) => (x : Int)))

/-- the outcome of a model mutation in the shape of the translated methods (`IndexError` for an index out of range) -/
def mutRes : Except IdxErr (List (List Nat)) → Py.Res (List (List Int))
  | .ok xs => .ok (sigsZ xs)
  | .error _ => .raised .IndexError

private theorem wrap_of_ok {n : Nat} {i : Int} {j : Nat} (h : checkIndex n i = .ok j) :
    (if i < 0 then i + (n : Int) else i) = (j : Int) := by
  obtain ⟨h1, -, rfl⟩ := checkIndex_ok h
  exact (natCast_wrapIdx h1).symm

theorem getItem?_of_checkIndex_ok {α : Type} (l : List α) {i : Int} {j : Nat}
    (h : checkIndex l.length i = .ok j) : Py.getItem? l i = l[j]? := by
  unfold Py.getItem?
  simp only [wrap_of_ok h]
  rw [if_neg (by omega), Int.toNat_natCast]

theorem getItem?_of_checkIndex_error {α : Type} (l : List α) {i : Int} {e : IdxErr}
    (h : checkIndex l.length i = .error e) : Py.getItem? l i = none := by
  have := (checkIndex_error l.length i e h).2
  unfold Py.getItem?
  by_cases hi : i < 0
  · simp only [if_pos hi]
    by_cases hj : i + (l.length : Int) < 0
    · rw [if_pos hj]
    · omega
  · simp only [if_neg hi]
    rw [List.getElem?_eq_none (by omega)]

/-- `xs[i]` raises `IndexError` exactly when `checkIndex` rejects `i` -/
theorem getItem?_eq_none_iff {α : Type} (l : List α) (i : Int) :
    Py.getItem? l i = none ↔ ∃ e, checkIndex l.length i = .error e := by
  cases h : checkIndex l.length i with
  | error e => exact ⟨fun _ => ⟨e, rfl⟩, fun _ => getItem?_of_checkIndex_error l h⟩
  | ok j =>
    have hj : j < l.length := checkIndex_ok_lt h
    rw [getItem?_of_checkIndex_ok l h, List.getElem?_eq_getElem hj]
    constructor
    · intro h'; cases h'
    · rintro ⟨e, he⟩; cases he

theorem listSet_of_checkIndex_ok {α : Type} (l : List α) {i : Int} {j : Nat} (v : α)
    (h : checkIndex l.length i = .ok j) : Py.listSet l i v = l.set j v := by
  unfold Py.listSet
  simp only [wrap_of_ok h]
  rw [if_neg (by omega), Int.toNat_natCast]

theorem listDel_of_checkIndex_ok {α : Type} (l : List α) {i : Int} {j : Nat}
    (h : checkIndex l.length i = .ok j) : Py.listDel l i = l.eraseIdx j := by
  unfold Py.listDel
  simp only [wrap_of_ok h]
  rw [if_neg (by omega), Int.toNat_natCast]

@[simp] theorem sigsZ_length (xs : List (List Nat)) : (sigsZ xs).length = xs.length := by
  unfold sigsZ; rw [List.length_map]

theorem sigsZ_set (xs : List (List Nat)) (j : Nat) (x : List Nat) :
    (sigsZ xs).set j (x.map (fun (v : Nat) => (v : Int))) = sigsZ (xs.set j x) := by
  unfold sigsZ; rw [List.map_set]

theorem sigsZ_eraseIdx (xs : List (List Nat)) (j : Nat) :
    (sigsZ xs).eraseIdx j = sigsZ (xs.eraseIdx j) := by
  unfold sigsZ
  rw [List.eraseIdx_eq_take_drop_succ, List.eraseIdx_eq_take_drop_succ, List.map_append, List.map_take, List.map_drop]

theorem sigsZ_getElem? (xs : List (List Nat)) (j : Nat) :
    (sigsZ xs)[j]? = xs[j]?.map (fun s => s.map (fun (x : Nat) => (x : Int))) := by
  unfold sigsZ; rw [List.getElem?_map]

theorem siglist_setitem_eq (xs : List (List Nat)) (i : Int) (x : List Nat) :
    Gen.siglist_setitem (sigsZ xs) i (x.map (fun (v : Nat) => (v : Int))) = mutRes (applyMut xs (.set i x)) := by
  unfold Gen.siglist_setitem Gen.siglist_setitem.run applyMut
  simp only [py_eval]
  rw [← sigsZ_length xs]
  cases h : checkIndex (sigsZ xs).length i with
  | error e =>
    rw [getItem?_of_checkIndex_error _ h]
    rfl
  | ok j =>
    rw [getItem?_of_checkIndex_ok _ h, listSet_of_checkIndex_ok _ _ h, sigsZ_set, List.getElem?_eq_getElem (checkIndex_ok_lt h)]
    rfl

theorem siglist_delitem_eq (xs : List (List Nat)) (i : Int) :
    Gen.siglist_delitem (sigsZ xs) i = mutRes (applyMut xs (.del i)) := by
  unfold Gen.siglist_delitem Gen.siglist_delitem.run applyMut
  simp only [py_eval]
  rw [← sigsZ_length xs]
  cases h : checkIndex (sigsZ xs).length i with
  | error e =>
    rw [getItem?_of_checkIndex_error _ h]
    rfl
  | ok j =>
    rw [getItem?_of_checkIndex_ok _ h, listDel_of_checkIndex_ok _ h, sigsZ_eraseIdx, List.getElem?_eq_getElem (checkIndex_ok_lt h)]
    rfl

theorem siglist_insert_eq (xs : List (List Nat)) (i : Int) (x : List Nat) :
    Gen.siglist_insert (sigsZ xs) i (x.map (fun (v : Nat) => (v : Int))) = mutRes (applyMut xs (.insert i x)) := by
  unfold Gen.siglist_insert Gen.siglist_insert.run applyMut Py.listInsert
  simp only [py_eval, sigsZ_length, mutRes]
  unfold sigsZ
  simp only [List.map_append, List.map_take, List.map_drop, List.map_cons, List.map_nil]

/-- `SignatureList._getitem_int(i)` for every integer `i`: the element `checkIndex` selects (cast element-wise),
or `IndexError` when `checkIndex` rejects the index. -/
theorem siglist_getitem_int_eq (xs : List (List Nat)) (i : Int) :
    Gen.siglist_getitem_int (sigsZ xs) i = (match checkIndex xs.length i with
      | .ok j => .ok ((xs.getD j []).map (fun (v : Nat) => (v : Int)))
      | .error _ => .raised .IndexError) := by
  unfold Gen.siglist_getitem_int Gen.siglist_getitem_int.run
  simp only [py_eval]
  rw [← sigsZ_length xs]
  cases h : checkIndex (sigsZ xs).length i with
  | error e =>
    rw [getItem?_of_checkIndex_error _ h]
    rfl
  | ok j =>
    have hj : j < xs.length := sigsZ_length xs ▸ checkIndex_ok_lt h
    rw [getItem?_of_checkIndex_ok _ h, sigsZ_getElem?]
    simp only [py_eval, List.getD_eq_getElem?_getD, List.getElem?_eq_getElem hj, Option.map_some]

/-- the accepted case with the element named: `checkIndex` accepts `i` as `j`, and the method returns `xs[j]` -/
theorem siglist_getitem_int_ok (xs : List (List Nat)) (i : Int) (j : Nat) (h : checkIndex xs.length i = .ok j) :
    ∃ hj : j < xs.length,
      Gen.siglist_getitem_int (sigsZ xs) i = .ok ((xs[j]'hj).map (fun (v : Nat) => (v : Int))) := by
  have hj : j < xs.length := checkIndex_ok_lt h
  refine ⟨hj, ?_⟩
  rw [siglist_getitem_int_eq, h]
  simp only [List.getD_eq_getElem?_getD, List.getElem?_eq_getElem hj, Option.getD_some]

/-! ### non-vacuity -/

example : Gen.siglist_insert [[1], [2], [3], [4], [5], [6]] (-8) [9] = .ok [[9], [1], [2], [3], [4], [5], [6]] := by decide
example : Gen.siglist_delitem [[1], [2], [3], [4], [5], [6]] (-1) = .ok [[1], [2], [3], [4], [5]] := by decide
example : Gen.siglist_setitem [[1], [2], [3], [4], [5], [6]] 6 [9] = .raised .IndexError := by decide
example : Gen.siglist_setitem [[1], [2], [3]] (-3) [9] = .ok [[9], [2], [3]] := by decide
example : Gen.siglist_getitem_int [[1], [2], [3]] (-1) = .ok [3] := by decide
example : Gen.siglist_getitem_int [[1], [2], [3]] (-4) = .raised .IndexError := by decide
example : mutRes (applyMut [[1], [2], [3]] (.del 3)) = .raised .IndexError := by decide

end GambitV.Tie.Py
