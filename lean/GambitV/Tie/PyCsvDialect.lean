import GambitV.Gen.PyCsvDialect

/-!
Tie (structural facts): the dialect of the CSV exporter as it stands in the current source: `\\n` line terminator, minimal quoting —
what `writeCsv` models.

Each fact says that one function consists of exactly the expected statements, one class has exactly the expected shape, or one
constant the expected value (harness/flow_facts.json; compared as normalised `ast` text by harness/pytrace.py on every run); reading
these as the models do is part of the trusted base (DESIGN §3).
-/
namespace GambitV.Tie.Py

theorem csv_dialect_facts :
    Gen.pyCsvDialect_init = true := by decide

end GambitV.Tie.Py
