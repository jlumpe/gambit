import GambitV.Gen.PyLoadFlow

/-!
Tie (structural facts): how a reference database is opened, by the library and by the command line, as it stands in the current source: the
located files, a read-only session, the one constructor. Each fact says that one function consists of exactly the expected statements
(compared as normalised `ast` text by harness/pytrace.py on every run); reading these statements as the models do is part of the trusted
base (DESIGN §3).
-/
namespace GambitV.Tie.Py
open GambitV

theorem load_flow_facts :
    Gen.pyLoadFlow_loadGenomeset = true ∧ Gen.pyLoadFlow_load = true ∧ Gen.pyLoadFlow_loadFromDir = true ∧ Gen.pyLoadFlow_onlyGenomeset = true ∧ Gen.pyLoadFlow_loadSignatures = true ∧ Gen.pyLoadFlow_cliFindDb = true ∧ Gen.pyLoadFlow_cliInitGenomes = true ∧ Gen.pyLoadFlow_cliEngine = true ∧ Gen.pyLoadFlow_cliSession = true ∧ Gen.pyLoadFlow_cliSignatures = true ∧ Gen.pyLoadFlow_cliGetDatabase = true := by decide

end GambitV.Tie.Py
