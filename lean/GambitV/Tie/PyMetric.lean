import GambitV.Gen.PyMetric
import GambitV.Props.C02
import GambitV.Lemmas.PyRt

/-!
Tie of the machine-generated translation of `gambit/metric.py` (`GambitV.Gen.PyMetric`: `_cast_sigs_array`, `jaccard`,
`jaccarddist`, `num_pairs`) to the hand-written model (`GambitV.Model.Jaccard`: `castDtype`, `asUnsigned`, `jaccardBits`,
`jaccardIndexBits`), and the C02 property carried over to the translated wrappers.
-/
namespace GambitV.Tie.Py
open GambitV

/-- the values of an accepted array as the kernels read them: unsigned types as they are, signed types through their two's-complement view -/
def castVals (a : Py.Arr) : List Nat :=
  if a.dtype.kind = 'u' then a.vals.map Int.toNat else a.vals.map (asUnsigned a.dtype.size)

theorem not_contains_of_castDtype_none {k : Char} (hk : k = 'u' ∨ k = 'i') {d : Py.DType}
    (h : castDtype d.kind d.size d.native = none) :
    ([({ kind := k, size := 2, native := true } : Py.DType), { kind := k, size := 4, native := true },
      { kind := k, size := 8, native := true }]).contains d = false := by
  rw [Bool.eq_false_iff]
  intro hc
  simp only [List.contains_iff_mem, List.mem_cons, List.not_mem_nil, or_false] at hc
  have : castDtype d.kind d.size d.native = some d.size := by
    rw [C02.castDtype_spec]; rcases hc with rfl | rfl | rfl <;> simp [hk]
  rw [h] at this; cases this

/-- `_cast_sigs_array`: exactly the six native 16/32/64-bit integer types are accepted (`castDtype`); unsigned arrays are returned as they
are, signed ones viewed as unsigned of the same width; anything else is a `ValueError` -/
theorem cast_sigs_array_eq (a : Py.Arr) :
    Gen.cast_sigs_array a = (match castDtype a.dtype.kind a.dtype.size a.dtype.native with
      | some w => .ok { dtype := { kind := 'u', size := w, native := true },
                        vals := if a.dtype.kind = 'u' then a.vals else a.vals.map (fun v => (asUnsigned a.dtype.size v : Int)) }
      | none => .raised .ValueError) := by
  cases h : castDtype a.dtype.kind a.dtype.size a.dtype.native with
  | some w =>
    obtain ⟨⟨k, sz, nat⟩, vals⟩ := a
    rw [C02.castDtype_spec] at h
    obtain ⟨rfl, hk, hs, rfl⟩ := h
    rcases hk with rfl | rfl <;> rcases hs with rfl | rfl | rfl <;> rfl
  | none =>
    simp only [Gen.cast_sigs_array, Gen.cast_sigs_array.run, not_contains_of_castDtype_none (Or.inl rfl) h,
      not_contains_of_castDtype_none (Or.inr rfl) h, py_eval]

theorem asUnsigned_toNat (w : Nat) (v : Int) : ((asUnsigned w v : Nat) : Int).toNat = asUnsigned w v := Int.toNat_natCast _

/-- an accepted array: the cast succeeds, the result has a kernel type, and the kernels read `castVals` -/
theorem cast_sigs_array_ok (a : Py.Arr) (w : Nat) (h : castDtype a.dtype.kind a.dtype.size a.dtype.native = some w) :
    ∃ r, Gen.cast_sigs_array a = .ok r ∧ r.dtype.kernelOk = true ∧ r.natVals = castVals a := by
  rw [cast_sigs_array_eq, h]
  refine ⟨_, rfl, ?_, ?_⟩
  · rw [C02.castDtype_spec] at h
    obtain ⟨-, -, hs, rfl⟩ := h
    rcases hs with hs | hs | hs <;> simp [Py.DType.kernelOk, hs]
  · unfold Py.Arr.natVals castVals
    by_cases hk : a.dtype.kind = 'u'
    · simp only [hk, if_true]
    · simp only [hk, if_false, List.map_map]
      exact List.map_congr_left fun v _ => asUnsigned_toNat _ v

theorem cast_sigs_array_bad (a : Py.Arr) (h : castDtype a.dtype.kind a.dtype.size a.dtype.native = none) :
    Gen.cast_sigs_array a = .raised .ValueError := by
  rw [cast_sigs_array_eq, h]

/-- `jaccarddist` / `jaccard` (Python wrappers): the kernel's value on the unsigned views, whatever the two integer types -/
theorem jaccarddist_eq (a b : Py.Arr) (wa wb : Nat)
    (ha : castDtype a.dtype.kind a.dtype.size a.dtype.native = some wa) (hb : castDtype b.dtype.kind b.dtype.size b.dtype.native = some wb) :
    Gen.jaccarddist a b = .ok (jaccardBits (castVals a) (castVals b)) := by
  obtain ⟨ra, ea, ka, va⟩ := cast_sigs_array_ok a wa ha
  obtain ⟨rb, eb, kb, vb⟩ := cast_sigs_array_ok b wb hb
  simp only [Gen.jaccarddist, Gen.jaccarddist.run, ea, eb, ka, kb, va, vb, Bool.and_self, Bool.not_true, py_eval]

theorem jaccard_eq (a b : Py.Arr) (wa wb : Nat)
    (ha : castDtype a.dtype.kind a.dtype.size a.dtype.native = some wa) (hb : castDtype b.dtype.kind b.dtype.size b.dtype.native = some wb) :
    Gen.jaccard a b = .ok (jaccardIndexBits (castVals a) (castVals b)) := by
  obtain ⟨ra, ea, ka, va⟩ := cast_sigs_array_ok a wa ha
  obtain ⟨rb, eb, kb, vb⟩ := cast_sigs_array_ok b wb hb
  simp only [Gen.jaccard, Gen.jaccard.run, ea, eb, ka, kb, va, vb, Bool.and_self, Bool.not_true, py_eval]

theorem jaccarddist_bad (a b : Py.Arr)
    (h : castDtype a.dtype.kind a.dtype.size a.dtype.native = none ∨ castDtype b.dtype.kind b.dtype.size b.dtype.native = none) :
    Gen.jaccarddist a b = .raised .ValueError ∧ Gen.jaccard a b = .raised .ValueError := by
  cases ha : castDtype a.dtype.kind a.dtype.size a.dtype.native with
  | none =>
    simp only [Gen.jaccarddist, Gen.jaccarddist.run, Gen.jaccard, Gen.jaccard.run, cast_sigs_array_bad a ha,
      py_eval, and_self]
  | some wa =>
    obtain ⟨ra, ea, -, -⟩ := cast_sigs_array_ok a wa ha
    simp only [Gen.jaccarddist, Gen.jaccarddist.run, Gen.jaccard, Gen.jaccard.run, ea,
      cast_sigs_array_bad b (h.resolve_left (by simp [ha])), py_eval, and_self]

theorem num_pairs_eq (n : Nat) : Gen.num_pairs (n : Int) = .ok ((n * (n - 1) / 2 : Nat) : Int) := by
  have hprod : (n : Int) * ((n : Int) - 1) = ((n * (n - 1) : Nat) : Int) := by cases n <;> simp
  simp only [Gen.num_pairs, Gen.num_pairs.run, (by decide : decide ((2 : Int) = 0) = false), py_eval,
    Py.floorDiv, hprod, Int.fdiv_eq_ediv_of_nonneg _ (by decide : (0 : Int) ≤ 2)]
  norm_cast

/-- PROPERTY (C02) of the translated wrapper: for sorted duplicate-free non-negative index arrays in any mix of the six integer types with
fewer than 2^24 elements in the union, the reported distance is the exact ratio |A△B| / |A∪B| rounded once to binary32, and the reported
index is one minus it -/
theorem py_jaccarddist_correctly_rounded (a b : Py.Arr) (wa wb : Nat)
    (ha : castDtype a.dtype.kind a.dtype.size a.dtype.native = some wa) (hb : castDtype b.dtype.kind b.dtype.size b.dtype.native = some wb)
    (sa : (castVals a).Pairwise (· < ·)) (sb : (castVals b).Pairwise (· < ·)) (hu : unionCount (castVals a) (castVals b) < 2 ^ 24) :
    Gen.jaccarddist a b = .ok (jaccardSpecBits (symmDiff (castVals a).toFinset (castVals b).toFinset).card ((castVals a).toFinset ∪ (castVals b).toFinset).card)
    ∧ Gen.jaccard a b = .ok (F32.sub F32.oneBits (jaccardSpecBits (symmDiff (castVals a).toFinset (castVals b).toFinset).card ((castVals a).toFinset ∪ (castVals b).toFinset).card)) := by
  rw [jaccarddist_eq a b wa wb ha hb, jaccard_eq a b wa wb ha hb, C02.index_eq_one_sub,
    C02.jaccard_correctly_rounded sa sb hu]
  exact ⟨rfl, rfl⟩

/-- width irrelevance: two arrays holding the same non-negative values in different accepted integer types give the same distance -/
theorem py_width_irrelevant (a a' b : Py.Arr) (wa wa' wb : Nat)
    (ha : castDtype a.dtype.kind a.dtype.size a.dtype.native = some wa) (ha' : castDtype a'.dtype.kind a'.dtype.size a'.dtype.native = some wa')
    (hb : castDtype b.dtype.kind b.dtype.size b.dtype.native = some wb) (hv : castVals a = castVals a') :
    Gen.jaccarddist a b = Gen.jaccarddist a' b ∧ Gen.jaccarddist b a = Gen.jaccarddist b a' := by
  rw [jaccarddist_eq a b wa wb ha hb, jaccarddist_eq a' b wa' wb ha' hb, jaccarddist_eq b a wb wa hb ha,
    jaccarddist_eq b a' wb wa' hb ha', hv]
  exact ⟨rfl, rfl⟩

/-! ### non-vacuity (`unionCount` is defined by well-founded recursion, so the two value examples go through the kernel evaluator, as in `Props/C02.lean`) -/

example : Gen.jaccarddist {dtype := ⟨'u', 2, true⟩, vals := [1,2,3]} {dtype := ⟨'i', 8, true⟩, vals := [2,3,4]} = .ok 0x3F000000 := by decide +kernel
example : Gen.jaccard {dtype := ⟨'i', 4, true⟩, vals := [1,2,3]} {dtype := ⟨'u', 8, true⟩, vals := [2,3,4]} = .ok 0x3F000000 := by decide +kernel
example : Gen.jaccarddist {dtype := ⟨'f', 4, true⟩, vals := [1,2,3]} {dtype := ⟨'i', 8, true⟩, vals := [2,3,4]} = .raised .ValueError := by decide
example : Gen.jaccarddist {dtype := ⟨'u', 2, true⟩, vals := [1,2,3]} {dtype := ⟨'u', 1, true⟩, vals := [2,3,4]} = .raised .ValueError := by decide
example : Gen.jaccard {dtype := ⟨'u', 2, false⟩, vals := [1,2,3]} {dtype := ⟨'u', 4, true⟩, vals := [2,3,4]} = .raised .ValueError := by decide
example : Gen.cast_sigs_array {dtype := ⟨'i', 2, true⟩, vals := [-1, 5]} = .ok {dtype := ⟨'u', 2, true⟩, vals := [65535, 5]} := by decide
example : castVals {dtype := ⟨'i', 2, true⟩, vals := [-1, 5]} = [65535, 5] := by decide
example : Gen.num_pairs 5 = .ok 10 := by decide
example : Gen.num_pairs 0 = .ok 0 := by decide

end GambitV.Tie.Py
