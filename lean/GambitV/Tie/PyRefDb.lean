import GambitV.Gen.PyRefDb
import GambitV.Model.RefDb
import GambitV.Props.C04
import GambitV.Lemmas.PyRt
import GambitV.Lemmas.TiePyRefDb

/-!
Tie of the machine-translated `_check_genomes_have_ids`, `_map_ids_to_genomes`, `genomes_by_id`, `genomes_by_id_subset` and
`ReferenceDatabase.__init__` (`GambitV.Gen.*`, from gambit/db/refdb.py) to the hand-written model `matchIds` / `loadDb`
(`Model/RefDb.lean`).

The Python dict comprehension of `_map_ids_to_genomes` keeps the LAST genome with a given ID, `matchIds` looks up the FIRST
(`idxOf?`): the two agree when the ID values are unique (the schema's uniqueness constraints), which is the hypothesis of the
theorems.  The refusals come in the same order as in `loadDb`: no ID attribute (TypeError), not a valid attribute (ValueError),
a genome without an ID (RuntimeError), genomes left unmatched (ValueError).

Each `*_eq` lemma unfolds `run` once and replaces the callees by their proved values and the loops by left folds with the steps
`idStep` / `subStep`.
-/
namespace GambitV.Tie.Py
open GambitV GambitV.Py GambitV.TieRefDb

/-- the outcome of the model's `loadDb` in the shape the translated `ReferenceDatabase.__init__` returns -/
def loadRes : Except LoadErr (List (Nat × Nat)) → Py.Res (List Nat × List Int)
  | .ok m => .ok (m.map (·.1), m.map (fun p => (p.2 : Int)))
  | .error .typeError => .raised .TypeError
  | .error .valueError => .raised .ValueError
  | .error .runtimeError => .raised .RuntimeError

theorem loadRes_eq_ok {r : Except LoadErr (List (Nat × Nat))} {gs : List Nat} {ps : List Int}
    (h : loadRes r = .ok (gs, ps)) : ∃ m, r = .ok m ∧ gs = m.map (·.1) ∧ ps = m.map (fun p => (p.2 : Int)) := by
  cases r with
  | ok m => cases h; exact ⟨m, rfl, rfl, rfl⟩
  | error e => cases e <;> cases h

/-- `_check_genomes_have_ids`: RuntimeError iff some genome has no value for the ID attribute -/
theorem check_genomes_have_ids_eq (gids : List (Option Nat)) (a : Bool) :
    Gen.check_genomes_have_ids gids () a = if gids.any (·.isNone) then .raised .RuntimeError else .ok none := by
  unfold Gen.check_genomes_have_ids Gen.check_genomes_have_ids.run
  simp only [count_none_pos]
  cases gids.any (·.isNone) <;> rfl

/-- `_map_ids_to_genomes` when every genome has an ID -/
theorem map_ids_to_genomes_eq (ids : List Nat) (a : Bool) :
    Gen.map_ids_to_genomes (ids.map some) () a = .ok (dictFromPairs ids.zipIdx) := by
  unfold Gen.map_ids_to_genomes Gen.map_ids_to_genomes.run
  simp only [swapped_pairs]
  rfl

/-- one iteration of `[d.get(id_) for id_ in ids]` -/
def idStep (s : Gen.genomes_by_id.St) (x : Nat) : Gen.genomes_by_id.St :=
  { s with id_ := x, ret__ := s.ret__ ++ [dictGet? s.d x] }

theorem foldl_idStep (xs : List Nat) (s : Gen.genomes_by_id.St) :
    (xs.foldl idStep s).ret__ = s.ret__ ++ xs.map (fun x => dictGet? s.d x) ∧ (xs.foldl idStep s).d = s.d := by
  induction xs generalizing s with
  | nil => exact ⟨(List.append_nil _).symm, rfl⟩
  | cons x xs ih =>
    obtain ⟨h1, h2⟩ := ih (idStep s x)
    rw [List.foldl_cons, h1, h2]
    simp only [idStep, List.append_assoc, List.singleton_append, List.map_cons, and_self]

/-- `genomes_by_id(..., strict=False)` with a valid attribute, every genome with an ID, IDs unique: `d.get(id)` is `idxOf?` -/
theorem genomes_by_id_eq (ids sigIds : List Nat) (hN : ids.Nodup) :
    Gen.genomes_by_id (ids.map some) () true sigIds false = .ok (sigIds.map (fun x => ids.idxOf? x)) := by
  have hany : (ids.map some).any (·.isNone) = false :=
    C04.any_isNone_eq_false.2 fun x hx e => by obtain ⟨i, _, rfl⟩ := List.mem_map.1 hx; cases e
  unfold Gen.genomes_by_id Gen.genomes_by_id.run
  simp only [py_eval, check_genomes_have_ids_eq, hany, map_ids_to_genomes_eq, Bool.not_true]
  generalize hw : Py.forEach _ _ _ = w
  have hfold := hw.symm.trans (forEach_ok _ _ idStep (fun _ _ => rfl) _)
  subst hfold
  simp only [py_eval, (foldl_idStep _ _).1, List.nil_append, dictGet?_fromPairs ids hN]

/-- `genomes_by_id` refuses an attribute that is not one of `Genome.ID_ATTRS` before looking at the genomes -/
theorem genomes_by_id_bad_attr (gids : List (Option Nat)) (sigIds : List Nat) (strict : Bool) :
    Gen.genomes_by_id gids () false sigIds strict = .raised .ValueError := by
  unfold Gen.genomes_by_id Gen.genomes_by_id.run
  rfl

/-- `genomes_by_id` raises the RuntimeError of `_check_genomes_have_ids` -/
theorem genomes_by_id_missing (gids : List (Option Nat)) (sigIds : List Nat) (strict : Bool)
    (h : gids.any (·.isNone) = true) : Gen.genomes_by_id gids () true sigIds strict = .raised .RuntimeError := by
  unfold Gen.genomes_by_id Gen.genomes_by_id.run
  simp only [check_genomes_have_ids_eq, h, if_true, Bool.not_true, guard_false, call_raised, bind, Except.bind, finish_exc]

/-- one iteration of `for i, g in enumerate(genomes): if g is not None: ...` -/
def subStep (s : Gen.genomes_by_id_subset.St) (x : Int × Option Nat) : Gen.genomes_by_id_subset.St :=
  if x.2.isSome then
    { s with i := x.1, g := x.2, genomes_out := s.genomes_out ++ [x.2.getD 0], idxs_out := s.idxs_out ++ [x.1] }
  else { s with i := x.1, g := x.2 }

theorem foldl_subStep (xs : List (Int × Option Nat)) (s : Gen.genomes_by_id_subset.St) :
    (xs.foldl subStep s).genomes_out = s.genomes_out ++ xs.filterMap (fun x => x.2) ∧
      (xs.foldl subStep s).idxs_out = s.idxs_out ++ xs.filterMap (fun x => x.2.map (fun _ => x.1)) := by
  induction xs generalizing s with
  | nil => exact ⟨(List.append_nil _).symm, (List.append_nil _).symm⟩
  | cons x xs ih =>
    obtain ⟨h1, h2⟩ := ih (subStep s x)
    rw [List.foldl_cons, h1, h2]
    obtain ⟨i, g⟩ := x
    cases g <;> simp [subStep]

/-- `genomes_by_id_subset` (valid attribute, every genome has an ID, IDs unique): the genomes of the matched signature positions, in file order -/
theorem genomes_by_id_subset_eq (gids sigIds : List Nat) (hN : gids.Nodup) :
    Gen.genomes_by_id_subset (gids.map some) () true sigIds
      = .ok ((matchIds gids sigIds).map (·.1), (matchIds gids sigIds).map (fun p => (p.2 : Int))) := by
  unfold Gen.genomes_by_id_subset Gen.genomes_by_id_subset.run
  simp only [py_eval, genomes_by_id_eq gids sigIds hN]
  generalize hw : Py.forEach _ _ _ = w
  have hfold := hw.symm.trans (forEach_ok _ _ subStep (by
    rintro ⟨i, g⟩ s
    cases g <;> rfl) _)
  subst hfold
  simp only [py_eval, (foldl_subStep _ _).1, (foldl_subStep _ _).2, List.nil_append, enumerate, enumerate_genomes,
    enumerate_positions, matchOff_zero]

theorem genomes_by_id_subset_bad_attr (gids : List (Option Nat)) (sigIds : List Nat) :
    Gen.genomes_by_id_subset gids () false sigIds = .raised .ValueError := by
  unfold Gen.genomes_by_id_subset Gen.genomes_by_id_subset.run
  simp only [genomes_by_id_bad_attr, call_raised, bind, Except.bind, finish_exc]

theorem genomes_by_id_subset_missing (gids : List (Option Nat)) (sigIds : List Nat) (h : gids.any (·.isNone) = true) :
    Gen.genomes_by_id_subset gids () true sigIds = .raised .RuntimeError := by
  unfold Gen.genomes_by_id_subset Gen.genomes_by_id_subset.run
  simp only [genomes_by_id_missing _ _ _ h, call_raised, bind, Except.bind, finish_exc]

/-- `ReferenceDatabase.__init__` = the model's `loadDb`, with the same order of the four refusals (unique ID values assumed: the schema's
uniqueness constraints) -/
theorem refdb_init_eq (gids : List (Option Nat)) (idAttr : Option Bool) (sigIds : List Nat) (hN : (gids.filterMap id).Nodup) :
    Gen.refdb_init gids idAttr sigIds () () = loadRes (loadDb idAttr gids sigIds) := by
  unfold Gen.refdb_init Gen.refdb_init.run
  rcases idAttr with _ | _ | _
  · rfl
  · simp only [py_eval, Option.isNone_some, Option.getD_some, genomes_by_id_subset_bad_attr]
    rfl
  rw [C04.loadDb_true]
  cases hany : gids.any (·.isNone) with
  | true =>
    simp only [py_eval, Option.isNone_some, Option.getD_some, genomes_by_id_subset_missing _ _ hany]
    rfl
  | false =>
    have hsub := genomes_by_id_subset_eq (gids.filterMap id) sigIds hN
    rw [map_some_filterMap_id gids hany] at hsub
    simp only [py_eval, Option.isNone_some, Option.getD_some, hsub, List.length_map]
    by_cases hlen : (matchIds (gids.filterMap id) sigIds).length = gids.length
    · simp [hlen, loadRes]
    · simp [py_eval, hlen, loadRes, Int.natCast_inj]

/-- property-level consequence (C04 `pairing`): whenever the translated constructor succeeds, every genome is paired with the signature
whose stored ID equals the genome's ID, and all genomes are paired -/
theorem py_refdb_pairing (gids : List (Option Nat)) (idAttr : Option Bool) (sigIds : List Nat) (hN : (gids.filterMap id).Nodup)
    (gs : List Nat) (ps : List Int) (h : Gen.refdb_init gids idAttr sigIds () () = .ok (gs, ps)) :
    gs.length = gids.length ∧ ps.length = gs.length ∧
      ∀ j, j < gs.length → ∃ p : Nat, ps[j]? = some (p : Int) ∧ sigIds[p]? = (gids.getD (gs.getD j 0) none) ∧ (gids.getD (gs.getD j 0) none).isSome := by
  rw [refdb_init_eq gids idAttr sigIds hN] at h
  obtain ⟨m, hl, rfl, rfl⟩ := loadRes_eq_ok h
  rcases idAttr with _ | _ | _
  · cases hl
  · cases hl
  obtain ⟨hne, rfl, hlen⟩ := (C04.load_ok_iff gids sigIds m).1 hl
  -- every genome has an ID: `gids` is the `some`-image of its values `G`
  have hG := map_some_filterMap_id gids (C04.any_isNone_eq_false.2 hne)
  generalize gids.filterMap id = G at hG hlen ⊢
  subst hG
  rw [List.length_map] at hlen
  refine ⟨by rw [List.length_map, hlen, List.length_map], by rw [List.length_map, List.length_map], fun j hj => ?_⟩
  rw [List.length_map] at hj
  obtain ⟨i0, hs, hg⟩ := C04.pairing (List.getElem_mem hj)
  simp only [List.get_eq_getElem] at hs hg
  refine ⟨(matchIds G sigIds)[j].2, by simp [hj], ?_⟩
  have hgd : (G.map some).getD (((matchIds G sigIds).map (·.1)).getD j 0) none = some i0 := by
    simp [List.getD_eq_getElem?_getD, hj, hg]
  rw [hgd]
  exact ⟨hs, rfl⟩

/-! ### non-vacuity -/

example : Gen.refdb_init [some 5, some 7, some 9] (some true) [9, 1, 5, 7, 2] () () = .ok ([2, 0, 1], [0, 2, 3]) := by decide
example : Gen.refdb_init [some 5, none, some 9] (some true) [9, 1, 5, 7, 2] () () = .raised .RuntimeError := by decide
example : Gen.refdb_init [some 5, some 7, some 9] (some true) [9, 1, 5, 2] () () = .raised .ValueError := by decide
example : Gen.refdb_init [some 5, none] (some false) [9] () () = .raised .ValueError := by decide
example : Gen.refdb_init [some 5, none] none [9] () () = .raised .TypeError := by decide
example : Gen.genomes_by_id_subset [some 5, some 7, some 9] () true [9, 1, 5, 5, 7, 2] = .ok ([2, 0, 0, 1], [0, 2, 3, 4]) := by rfl

end GambitV.Tie.Py
