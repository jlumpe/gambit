import GambitV.Gen.PyAccFacts

/-!
Tie: the two k-mer accumulator classes of `sigs/calc.py` are what `Py.Acc` (Model/PyRt.lean) says they are, read off the *current* source by
harness/pytrace.py on every run: a fresh accumulator marks nothing, `add` marks one index, `signature` is the marked indices in increasing order
(`np.flatnonzero` of the Boolean array / the sorted array of the set), and the translated `accumulate_kmers` / `calc_signature`
(`Tie/PyCalcSig.lean`) use an accumulator through these two methods only.  Structural (statement text).
In this and the other fact modules: when a fact turns `false`, `decide` on the conjunction does not say which one; `#eval` the conjuncts.  The
expected text of each is in harness/pytrace.py (harness/flow_facts.json for the `…Flow` modules).
-/
namespace GambitV.Tie.Py

theorem accumulator_facts :
    Gen.pyAcc_arrayInit = true ∧ Gen.pyAcc_arrayAdd = true ∧ Gen.pyAcc_arraySignature = true ∧ Gen.pyAcc_setInit = true
      ∧ Gen.pyAcc_setAdd = true ∧ Gen.pyAcc_setSignature = true ∧ Gen.pyAcc_onlyAddUsed = true := by
  decide

end GambitV.Tie.Py
