import GambitV.Gen.PyJson

/-!
Tie: the conversion rules of the two JSON exporters as they stand in the *current* source (`@to_json.register(X)` methods of
`JSONResultsExporter` and `ResultsArchiveWriter`, read by harness/pytrace.py on every run) against the exporters of `Model/Json.lean`,
and the structural facts around them (what `export` dumps with which `default=`, what the base `to_json` is, which hooks the converter has).  Core Lean only.
-/
namespace GambitV.Tie.Py
open GambitV GambitV.Json

/-- the rules `JSONResultsExporter` registers are the model's (same classes, same keys, same attribute paths) -/
theorem json_rules_eq : Gen.pyJsonExporter = jsonExporter := rfl

/-- the rules `ResultsArchiveWriter` registers are the model's: keys only for the three database classes, nothing else -/
theorem archive_rules_eq : Gen.pyArchiveExporter = archiveExporter := rfl

theorem json_translated : Gen.pyJsonExporter.untranslatable = false ∧ Gen.pyArchiveExporter.untranslatable = false := by decide

theorem json_structural_facts :
    Gen.pyJson_baseToJson = true ∧ Gen.pyJson_export = true ∧ Gen.pyJson_todict = true ∧ Gen.pyJson_converter = true
    ∧ Gen.pyJson_hooks = true ∧ Gen.pyJson_csvExport = true := by decide

end GambitV.Tie.Py
