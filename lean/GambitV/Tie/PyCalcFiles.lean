import GambitV.Gen.PyCalcFiles
import GambitV.Props.C13
import GambitV.Lemmas.TiePyCalcFiles

/-!
Tie of the machine-translated `calc_file_signatures` (`GambitV.Gen.calc_file_signatures`, from gambit/sigs/calc.py) to the
hand-written model of `Model/Schedule.lean` (`calcAll` for the branch with an executor, `calcSeq` for the branch without), and the
C13 property about the translated code (`py_calc_files_any_order`).

Environment of the translation: `R[f]` is the signature of file `f` (`none` = computing it raises), `SIGMA` the order in which
the submitted tasks complete; the future of file `f` is `f`.

Only `run_conc`, `run_seq` and `calc_files_bad_concurrency` unfold the generated term: the submission loop is a left fold
(`Py.forEach_ok`, step `submitStep`); the completion loop and the sequential loop both run their tasks through `mapM`
(`TieCalc.finish_bind_tasks`), the former storing each result in its cell (`sigs = setFold … pre [None] * n`), the latter
appending it.
-/
namespace GambitV.Tie.Py
open GambitV GambitV.Py GambitV.TieCalc

/-- the per-file outcome of the environment `R` (`none` = computing the file's signature raises) as the model's `result` function -/
def fileResult (R : List (Option Nat)) (f : Nat) : Except Unit Nat :=
  match R.getD f none with
  | some v => .ok v
  | none => .error ()

/-- the model's outcome in the shape of the translated function (a worker's exception is re-raised; the assertion failing would be an `AssertionError`) -/
def calcRes : Except Unit (Option (List Nat)) → Py.Res (List (Option Nat))
  | .error _ => .raised .Other
  | .ok none => .raised .AssertionError
  | .ok (some l) => .ok (l.map some)

theorem fileResult_ok {R : List (Option Nat)} {f v : Nat} (h : fileResult R f = .ok v) : R.getD f none = some v := by
  unfold fileResult at h
  split at h
  · next w hw => rw [hw]; injection h with h; rw [h]
  · cases h

theorem fileResult_error {R : List (Option Nat)} {f : Nat} {e : Unit} (h : fileResult R f = .error e) :
    R.getD f none = none := by
  unfold fileResult at h
  split at h
  · cases h
  · next hw => exact hw

theorem fileResult_of_some {R : List (Option Nat)} {f v : Nat} (h : R.getD f none = some v) : fileResult R f = .ok v := by
  unfold fileResult; rw [h]

theorem fileResult_of_none {R : List (Option Nat)} {f : Nat} (h : R.getD f none = none) : fileResult R f = .error () := by
  unfold fileResult; rw [h]

open Gen.calc_file_signatures in
/-- one iteration of `for i, file in enumerate(files): future = submit(...); future_to_index[future] = i` -/
def submitStep (s : St) (x : Int × Nat) : St :=
  { s with i := x.1, file := x.2, future := x.2, future_to_index := Py.dictSet s.future_to_index x.2 x.1 }

open Gen.calc_file_signatures in
theorem foldl_submitStep (xs : List (Int × Nat)) (s : St) :
    (xs.foldl submitStep s).sigs = s.sigs ∧
      (xs.foldl submitStep s).future_to_index = xs.foldl (fun d p => Py.dictSet d p.2 p.1) s.future_to_index := by
  induction xs generalizing s with
  | nil => exact ⟨rfl, rfl⟩
  | cons x xs ih =>
    obtain ⟨h1, h2⟩ := ih (submitStep s x)
    rw [List.foldl_cons, List.foldl_cons, h1, h2]
    exact ⟨rfl, rfl⟩

/-! ### the translated function, from any state -/

open Gen.calc_file_signatures in
/-- the branch with an executor (given, or created for `concurrency = 'threads' / 'processes'`), files `0 … n-1`, completion
order `σ`: the model's `calcAll` -/
theorem run_conc (R : List (Option Nat)) (n : Nat) (σ : List Nat) (hσ : σ.Perm (List.range n)) (s : St)
    (hf : s.files = List.range n)
    (hA : s.executor = some () ∨
      s.executor = none ∧ (s.concurrency = some "threads".toList ∨ s.concurrency = some "processes".toList)) :
    Py.finish (fun _ => .raised .Other) (run R σ s) = calcRes (calcAll n (fileResult R) σ) := by
  unfold run
  -- the first `if` block: an executor is there afterwards
  generalize hA' : (if (Option.isNone _) then _ else _ : Py.M St Ret St) = a
  have ha : a = .ok { s with executor := some (), executor_context := some () } := by
    subst hA'
    cases s
    simp only at hA
    rcases hA with h | ⟨h, h' | h'⟩
    · subst h; rfl
    -- the characters of the literals by unification with `String.ofList _`: `rfl` alone would run `String.toList` (a UTF-8 decoder)
    · subst h
      subst h'
      repeat rw [String.toList_ofList]
      rfl
    · subst h
      subst h'
      repeat rw [String.toList_ofList]
      rfl
  clear hA'
  subst ha
  simp only [py_eval, hf, Option.isNone_some, bind_assoc]
  -- the submission loop
  refine finish_bind_loop (fun s2 => s2.future_to_index = futDict n ∧ s2.sigs = List.replicate n none)
    ⟨_, forEach_ok _ _ submitStep (fun _ _ => rfl) _, ?_, ?_⟩ ?_
  · rw [(foldl_submitStep _ _).2, enumerate_range, foldl_dictSet_range]
  · rw [(foldl_submitStep _ _).1]
    simp only [List.length_range, Int.toNat_natCast]
  rintro s2 ⟨h2, h3⟩
  simp only [h2, filter_keys n σ hσ]
  -- the completion loop
  rw [calcAll_eq n _ σ hσ]
  refine finish_bind_tasks (fileResult R) .Other
    (fun pre s => s.future_to_index = futDict n ∧ s.sigs = setFold (okVal (fileResult R)) pre (List.replicate n none))
    (fun m => calcRes (m.map fun _ => allSome ((List.range n).map (okVal (fileResult R)))))
    (by
      rintro pre x s v hx ⟨hd, hl⟩ hr
      have hx := List.mem_range.1 (hσ.mem_iff.1 hx)
      have hR := fileResult_ok hr
      have hx' : x < s.sigs.length := by rw [hl, setFold_length, List.length_replicate]; exact hx
      refine ⟨{ s with future := x, i := (x : Int), sigs := s.sigs.set x (some v) }, ?_, hd, ?_⟩
      · simp only [py_eval, hd, dictGet?_futDict n x hx, Option.isNone_some, Option.getD_some, hR,
          Py.getItem?_nat, List.getElem?_eq_getElem hx', Py.listSet_nat]
      · rw [setFold_concat, okVal_eq_some_iff.2 hr, hl])
    (by
      rintro pre x s e hx ⟨hd, hl⟩ hr
      have hx := List.mem_range.1 (hσ.mem_iff.1 hx)
      have hR := fileResult_error hr
      simp only [py_eval, hd, dictGet?_futDict n x hx, Option.isNone_some, hR, Option.isNone_none])
    ⟨h2, h3⟩ ?_ (fun _ => rfl)
  rintro vs s' - ⟨-, hl⟩
  rw [setFold_perm _ σ _ (by rw [List.length_replicate]; exact hσ), List.length_replicate] at hl
  generalize (List.range n).map (okVal (fileResult R)) = l at hl ⊢
  simp only [Except.map]
  -- the final `assert`
  cases hall : allSome l with
  | none =>
    simp only [py_eval, hl, all_isSome_eq, hall, Option.isSome_none, Bool.not_false]
    rfl
  | some l' =>
    simp only [py_eval, hl, all_isSome_eq, hall, Option.isSome_some, Bool.not_true]
    rw [allSome_eq_some l l' hall]
    rfl

open Gen.calc_file_signatures in
/-- the branch without an executor: the sequential model -/
theorem run_seq (R : List (Option Nat)) (n : Nat) (σ : List Nat) (s : St)
    (hf : s.files = List.range n) (he : s.executor = none) (hcn : s.concurrency = none) :
    Py.finish (fun _ => .raised .Other) (run R σ s) = calcRes ((calcSeq n (fileResult R)).map some) := by
  unfold run
  simp only [py_eval, hf, he, hcn, Option.isNone_none, Option.none_beq_some, Option.isSome_none, bind_assoc]
  refine finish_bind_tasks (fileResult R) .Other (fun pre s => s.sigs = pre.map (okVal (fileResult R)))
    (fun m => calcRes (m.map some))
    (by
      rintro pre x s v - hl hr
      have hR := fileResult_ok hr
      refine ⟨{ s with file := x, sigs := s.sigs ++ [some v] }, ?_, ?_⟩
      · simp only [py_eval, hR, Option.isNone_some, Option.getD_some]
      · rw [List.map_append, hl, List.map_cons, List.map_nil, okVal_eq_some_iff.2 hr])
    (by
      rintro pre x s e - - hr
      have hR := fileResult_error hr
      simp only [py_eval, hR, Option.isNone_none])
    rfl ?_ (fun _ => rfl)
  intro l s' hm hl
  rw [map_okVal hm] at hl
  simp only [py_eval, hl, Except.map, calcRes]

/-- with a caller-supplied executor: the translated function is the model's `calcAll` on the completion order `σ` (files `0 … n-1`) -/
theorem calc_files_executor_eq (R : List (Option Nat)) (n : Nat) (σ : List Nat) (hσ : σ.Perm (List.range n))
    (conc : Option (List Char)) (mw : Option Int) :
    Gen.calc_file_signatures R σ () (List.range n) () conc mw (some ()) = calcRes (calcAll n (fileResult R) σ) :=
  run_conc R n σ hσ _ rfl (.inl rfl)

/-- with a pool the function creates itself (`concurrency = 'threads'` or `'processes'`): the same -/
theorem calc_files_pool_eq (R : List (Option Nat)) (n : Nat) (σ : List Nat) (hσ : σ.Perm (List.range n))
    (conc : List Char) (hc : conc = "threads".toList ∨ conc = "processes".toList) (mw : Option Int) :
    Gen.calc_file_signatures R σ () (List.range n) () (some conc) mw none = calcRes (calcAll n (fileResult R) σ) :=
  run_conc R n σ hσ _ rfl (.inr ⟨rfl, hc.elim (fun h => .inl (congrArg some h)) (fun h => .inr (congrArg some h))⟩)

/-- without concurrency: the sequential model -/
theorem calc_files_sequential_eq (R : List (Option Nat)) (n : Nat) (σ : List Nat) (mw : Option Int) :
    Gen.calc_file_signatures R σ () (List.range n) () none mw none = calcRes ((calcSeq n (fileResult R)).map some) :=
  run_seq R n σ _ rfl rfl rfl

/-- any other value of `concurrency` is refused -/
theorem calc_files_bad_concurrency (R : List (Option Nat)) (files σ : List Nat) (conc : List Char)
    (hc : conc ≠ "threads".toList ∧ conc ≠ "processes".toList) (mw : Option Int) :
    Gen.calc_file_signatures R σ () files () (some conc) mw none = .raised .ValueError := by
  have h1 : (some conc == some "threads".toList) = false := by
    rw [beq_eq_false_iff_ne]; exact fun e => hc.1 (Option.some.inj e)
  have h2 : (some conc == some "processes".toList) = false := by
    rw [beq_eq_false_iff_ne]; exact fun e => hc.2 (Option.some.inj e)
  unfold Gen.calc_file_signatures Gen.calc_file_signatures.run
  simp only [h1, h2, Option.isNone_none, Option.isSome_some, if_true, Bool.false_eq_true, if_false, bind, Except.bind, throw,
    throwThe, MonadExceptOf.throw, finish_exc]

/-- PROPERTY (C13) of the translated code: whatever the completion order, the result is the list of the files' signatures in file order
when every file succeeds, and the call raises (and returns no list) when some file fails; the assertion never fires -/
theorem py_calc_files_any_order (R : List (Option Nat)) (n : Nat) (σ : List Nat) (hσ : σ.Perm (List.range n))
    (conc : Option (List Char)) (mw : Option Int) :
    ((∀ i, i < n → (R.getD i none).isSome) →
        Gen.calc_file_signatures R σ () (List.range n) () conc mw (some ()) = .ok ((List.range n).map (fun i => R.getD i none)))
    ∧ ((∃ i, i < n ∧ R.getD i none = none) →
        Gen.calc_file_signatures R σ () (List.range n) () conc mw (some ()) = .raised .Other) := by
  rw [calc_files_executor_eq R n σ hσ conc mw]
  constructor
  · intro h
    have key : ∀ i, i < n → R.getD i none = some ((R.getD i none).getD 0) := fun i hi => by
      cases hr : R.getD i none with
      | none => exact absurd (h i hi) (by rw [hr]; exact Bool.false_ne_true)
      | some v => rfl
    rw [C13.collect_any_order n (fileResult R) _ (fun i hi => fileResult_of_some (key i hi)) σ hσ]
    simp only [calcRes, List.map_map]
    exact congrArg Py.Res.ok (List.map_congr_left (fun i hi => (key i (List.mem_range.1 hi)).symm))
  · rintro ⟨i, hi, hn⟩
    obtain ⟨e', he'⟩ := C13.collect_error n (fileResult R) σ hσ i hi () (fileResult_of_none hn)
    rw [he']
    rfl

/-! ### non-vacuity -/

example : Gen.calc_file_signatures [some 10, some 11, some 12] [2, 0, 1] () [0, 1, 2] () none none (some ())
    = .ok [some 10, some 11, some 12] := by decide
example : Gen.calc_file_signatures [some 10, some 11, some 12] [1, 2, 0] () [0, 1, 2] () (some "threads".toList) (some 4) none
    = .ok [some 10, some 11, some 12] := by decide +kernel
-- a failing file (and a file beyond the end of `R`) fails the call
example : Gen.calc_file_signatures [some 10, none, some 12] [2, 0, 1] () [0, 1, 2] () none none (some ())
    = .raised .Other := by decide
example : Gen.calc_file_signatures [some 10, some 11] [2, 0, 1] () [0, 1, 2] () none none (some ()) = .raised .Other := by decide
-- the sequential branch
example : Gen.calc_file_signatures [some 10, some 11, some 12] [] () [0, 1, 2] () none none none
    = .ok [some 10, some 11, some 12] := by decide
example : Gen.calc_file_signatures [some 10, none, some 12] [] () [0, 1, 2] () none none none = .raised .Other := by decide
-- an unknown `concurrency`
example : Gen.calc_file_signatures [some 10] [0] () [0] () (some "fibers".toList) none none = .raised .ValueError := by
  rw [String.toList_ofList]
  decide +kernel
-- the permutation hypothesis is needed: a lost future trips the assertion
example : Gen.calc_file_signatures [some 10, some 11, some 12] [2, 0] () [0, 1, 2] () none none (some ())
    = .raised .AssertionError := by decide
example : [2, 0, 1].Perm (List.range 3) := by decide

end GambitV.Tie.Py
