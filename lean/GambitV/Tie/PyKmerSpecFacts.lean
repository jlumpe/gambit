import GambitV.Gen.PyKmerSpecFacts

/-!
Tie (structural facts): what a `KmerSpec` is (validation and normalisation of its two parameters, derived fields, the default), as it stands in the current source.  Each fact says that one function consists of exactly the expected
statements, one class has exactly the expected shape, or one constant the expected value (harness/flow_facts.json; compared as normalised `ast`
text by harness/pytrace.py on every run); reading these as the models do is part of the trusted base (DESIGN §3).
-/
namespace GambitV.Tie.Py

theorem kmerspec_facts :
    Gen.pyKmerSpecFacts_init = true ∧ Gen.pyKmerSpecFacts_shape = true ∧ Gen.pyKmerSpecFacts_default = true := by decide

end GambitV.Tie.Py
