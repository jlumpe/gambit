import GambitV.Gen.PySigListGetitem
import GambitV.Tie.PyGetitem
import GambitV.Tie.PySigList

/-!
Tie of the machine-translated `AdvancedIndexingMixin.__getitem__` instantiated for the list-backed collection (`SignatureList`),
`GambitV.Gen.siglist_getitem`, and of the helper methods it calls (`SignatureList._getitem_int_array`, the mixin's `_getitem_slice` /
`_getitem_bool_array` defaults: `GambitV.Gen.siglist_getitem_int_array` / `_slice` / `_bool_array`), to the model `getItemList` of
`Model/Indexing.lean` — what a plain list selects — composed with `classify` (`Lemmas/PyDispatch.lean`).  The collection is passed as
the list of its signatures (`lV sigs`).

The dispatch is the same source as for the packed collection: its generated body is evaluated once, in `siglist_getitem_dispatch`, as
`Indexed.dispatch` of the methods of the list-backed collection; what it does on each kind of index and its agreement with the model
are then facts about `dispatch`, as in `Tie.PyGetitem`.  The last theorem puts the two ties together.
-/
namespace GambitV.Tie.Py
open GambitV GambitV.Py GambitV.Gen GambitV.TieConcat GambitV.TieGet

/-- the list-backed collection as the translated methods receive it -/
def lV (sigs : List (List Nat)) : List (List Int) := sigs.map (fun g => g.map (fun (x : Nat) => (x : Int)))

theorem lV_eq (sigs : List (List Nat)) : lV sigs = sigsZ sigs := rfl

theorem lV_length (sigs : List (List Nat)) : (lV sigs).length = sigs.length := by
  unfold lV; rw [List.length_map]

theorem lV_toNat (xs : List (List Nat)) : (lV xs).map (fun g => g.map Int.toNat) = xs := by
  unfold lV
  rw [List.map_map]
  exact List.map_id'' toNat_natCast_map xs

theorem getItem?_lV (sigs : List (List Nat)) (j : Nat) (hj : j < sigs.length) :
    Py.getItem? (lV sigs) (j : Int) = some ((sigs.getD j []).map (fun (x : Nat) => (x : Int))) :=
  getItem?_map_nat _ sigs [] hj

/-- one iteration of `[self._list[i] for i in indices]` -/
def liStep (sigs : List (List Nat)) (s : Gen.siglist_getitem_int_array.St) (x : Int) : Gen.siglist_getitem_int_array.St :=
  { s with i := x, tmp__L1 := s.tmp__L1 ++ [(sigs.getD x.toNat []).map (fun (v : Nat) => (v : Int))] }

theorem foldl_liStep (sigs : List (List Nat)) (js : List Nat) (s : Gen.siglist_getitem_int_array.St) :
    ((js.map (fun (j : Nat) => (j : Int))).foldl (liStep sigs) s).tmp__L1 = s.tmp__L1 ++ lV (js.map (fun j => sigs.getD j [])) := by
  induction js generalizing s with
  | nil => exact (List.append_nil _).symm
  | cons j js ih =>
    rw [List.map_cons, List.foldl_cons, ih]
    simp only [liStep, Int.toNat_natCast, List.append_assoc, List.singleton_append, List.map_cons, lV]

/-- `_getitem_int_array` on non-negative in-range indices: the selected signatures -/
theorem siglist_getitem_int_array_eq (sigs : List (List Nat)) (js : List Nat) (h : ∀ j ∈ js, j < sigs.length) :
    Gen.siglist_getitem_int_array (lV sigs) (js.map (fun (j : Nat) => (j : Int))) = .ok (lV (js.map (fun j => sigs.getD j []))) := by
  unfold Gen.siglist_getitem_int_array Gen.siglist_getitem_int_array.run
  refine finish_bind_loop (fun s => s.tmp__L1 = lV (js.map (fun j => sigs.getD j [])))
    ⟨_, forEach_fold rfl (fun s => s.self__list = lV sigs) (fun x => ∃ j : Nat, x = (j : Int) ∧ j < sigs.length) (liStep sigs)
      ?_ ?_ rfl, foldl_liStep sigs js _⟩ ?_
  · rintro x ⟨sl, ind, ret, tmp, i0⟩ ⟨j, rfl, hj⟩ rfl
    refine ⟨?_, rfl⟩
    simp only [getItem?_lV sigs j hj, py_eval, liStep, Int.toNat_natCast]
  · intro x hx
    obtain ⟨j, hj, rfl⟩ := List.mem_map.1 hx
    exact ⟨j, rfl, h j hj⟩
  · intro s hs
    simp only [py_eval, hs]

/-- the mixin's `_getitem_slice` on the list-backed collection: `_getitem_int_array` on the positions of the slice -/
theorem siglist_getitem_slice_eq (sigs : List (List Nat)) (a b c : Option Int) (hc : c ≠ some 0) :
    Gen.siglist_getitem_slice (lV sigs) (a, b, c) = .ok (lV ((slicePos sigs.length a b c).map (fun j => sigs.getD j []))) := by
  unfold Gen.siglist_getitem_slice Gen.siglist_getitem_slice.run
  simp only [py_eval, step_beq_false c hc, lV_length, Int.toNat_natCast, ← slicePos_cast sigs.length a b c hc,
    siglist_getitem_int_array_eq sigs _ (slicePos_lt sigs.length a b c hc)]

theorem getItemList_slice (sigs : List (List Nat)) (a b c : Option Int) (hc : c ≠ some 0) :
    getItemList sigs (.slice a b c) = .ok (.many ((slicePos sigs.length a b c).map (fun j => sigs.getD j []))) := by
  rw [(C20.slice_spec sigs a b c hc _ _ _ rfl).1, slicePos, List.map_map]
  rfl

/-- the mixin's `_getitem_bool_array` on the list-backed collection -/
theorem siglist_getitem_bool_array_eq (sigs : List (List Nat)) (m : List Bool) (hm : m.length = sigs.length) :
    Gen.siglist_getitem_bool_array (lV sigs) m = .ok (lV ((flatnonzero m).map (fun j => sigs.getD j []))) := by
  have h : ∀ j ∈ flatnonzero m, j < sigs.length := fun j hj => hm ▸ flatnonzero_lt m j hj
  unfold Gen.siglist_getitem_bool_array Gen.siglist_getitem_bool_array.run
  simp only [py_eval, siglist_getitem_int_array_eq sigs (flatnonzero m) h]

/-- the methods of a list-backed collection -/
def listIx (L : List (List Int)) : Indexed (List Int) (List (List Int)) Py.LSel where
  len := ((L.length : Nat) : Int)
  check := Gen.check_index ((L.length : Nat) : Int)
  getInt := Gen.siglist_getitem_int L
  getSlice := Gen.siglist_getitem_slice L
  getBool := Gen.siglist_getitem_bool_array L
  getInts := Gen.siglist_getitem_int_array L
  one := .one
  many := .many

/-- the checking loop `for i in index: self._check_index(i)` is `checkAll` followed by one assignment of the last item -/
theorem check_loopL (xs : List Int) (s : Gen.siglist_getitem.St) :
    forEach xs (fun x s => (call (check_index (↑s.self__list.length) x) : M Gen.siglist_getitem.St Gen.siglist_getitem.Ret Int)
        >>= fun _ => Except.ok { s with i_2 := x }) s
      = (call (checkAll (check_index (↑s.self__list.length)) xs)
        >>= fun _ => Except.ok ({ s with i_2 := xs.getLastD s.i_2 }, true)) := by
  -- instantiated without the goal as expected type: unifying the two lambdas against it is slow
  have h := forEach_checkAll (ρ := Gen.siglist_getitem.Ret) (key := Gen.siglist_getitem.St.self__list)
    (fun b x => check_index (↑b.length) x) (get := Gen.siglist_getitem.St.i_2) (set := fun s x => { s with i_2 := x })
    (fun _ _ => rfl) (fun _ _ _ => rfl) (fun _ _ => rfl) (fun _ => rfl) xs s
  exact h

/-- `__getitem__` of a list-backed collection is `dispatch` of its methods.  The array part is evaluated first, from any state, then the
classification in front of it. -/
theorem siglist_getitem_dispatch (L : List (List Int)) (idx : IdxVal) :
    Gen.siglist_getitem L idx = (listIx L).dispatch idx := by
  unfold Gen.siglist_getitem Gen.siglist_getitem.run
  refine (finish_bind (fun s => (listIx s.self__list).dispatchArr s.index) ?_).trans ?_
  · intro s
    by_cases hnd : s.index.isNd = true
    · obtain ⟨a, ha⟩ := IdxVal.eq_nd_of_isNd hnd
      by_cases hd : a.ndim = 1
      · have h1 : (a.ndim : Int) = 1 := by omega
        simp only [py_eval, ha, len?_nd a hd, h1, ne_eq, not_true_eq_false, decide_eq_true_eq, Bool.or_eq_true,
          beq_iff_eq, decide_not, Bool.not_eq_true', decide_eq_false_iff_not,
          check_loopL, finalInts_paths, bind_assoc, ite_bind, finish_ite, finish_call,
          Indexed.dispatchArr_nd, Indexed.dispatchNd, listIx, Res.map]
      · have h1 : ¬ (a.ndim : Int) = 1 := by omega
        simp only [py_eval, ha, h1, ne_eq, not_false_eq_true,
          decide_eq_true_eq, decide_not, Bool.not_eq_true', decide_eq_false_iff_not,
          Indexed.dispatchArr_nd, Indexed.dispatchNd_ndim _ hd]
    · have hnd' : s.index.isNd = false := by simpa using hnd
      simp only [py_eval, hnd', Indexed.dispatchArr_not_nd _ hnd']
  · cases idx with
    | int i => simp only [py_eval, finish_call, Indexed.dispatch, listIx, Res.map]
    | slice f g h =>
      simp only [py_eval, forEach_guardAll, List.foldl_cons, List.foldl_nil, IdxVal.stepIsZero, IdxVal.sliceHasOther,
        IdxVal.sliceTuple, Py.guard, beq_iff_eq, Bool.or_eq_true, ite_bind, finish_ite, finish_call, Indexed.dispatch, listIx, Res.map]
    | nd a => simp only [py_eval, Indexed.dispatchArr_nd, Indexed.dispatch]
    | sized n sp asarr =>
      simp only [decide_eq_true_eq, Bool.and_eq_true, Bool.not_eq_true']
      by_cases he : (n : Int) = 0 ∧ sp = false
      · simp only [py_eval, he, and_self, Indexed.dispatchArr_emptyInt, Indexed.dispatch]
      · cases asarr with
        | none => simp only [py_eval, he, Indexed.dispatch]
        | some a =>
          simp only [py_eval, he, Indexed.dispatchArr_nd, Indexed.dispatch]
    | unsized => simp only [py_eval, Indexed.dispatch]

/-- a result of the translated dispatch against a result of the model: the same signatures, entry for entry -/
def SameL : Py.LSel → Sel (List Nat) → Prop
  | r, .one x => r = .one (x.map (fun (v : Nat) => (v : Int)))
  | r, .many xs => r = .many (lV xs)

theorem listIx_selects (sigs : List (List Nat)) : Selects (listIx (lV sigs)) (listSpec sigs) SameL where
  len := by
    show (((lV sigs).length : Nat) : Int) = _
    rw [lV_length]
    rfl
  check i := by
    show Gen.check_index (((lV sigs).length : Nat) : Int) i = chkRes Int.ofNat (checkIndex sigs.length i)
    rw [lV_length, check_index_eq]
    cases checkIndex sigs.length i <;> rfl
  getInt j hj := by
    refine ⟨_, ?_, rfl⟩
    show Gen.siglist_getitem_int (lV sigs) j = _
    rw [lV_eq, siglist_getitem_int_eq, checkIndex_natCast (n := sigs.length) hj]
  getInts js hjs := ⟨_, siglist_getitem_int_array_eq sigs js hjs, rfl⟩
  getSlice a b s hs := ⟨_, _, siglist_getitem_slice_eq sigs a b s hs, getItemList_slice sigs a b s hs, rfl⟩
  getBool k hk := ⟨_, siglist_getitem_bool_array_eq sigs k hk, rfl⟩

theorem getitemL_int (sigs : List (List Nat)) (i : Int) :
    Gen.siglist_getitem (lV sigs) (.int i) = (match checkIndex sigs.length i with
      | .ok j => .ok (.one ((sigs.getD j []).map (fun (v : Nat) => (v : Int))))
      | .error _ => .raised .IndexError) := by
  rw [siglist_getitem_dispatch]
  have hc : _ = chkRes Int.ofNat (checkIndex sigs.length i) := (listIx_selects sigs).check i
  cases hj : checkIndex sigs.length i with
  | error e => rw [hj] at hc; exact dispatch_int_raised _ hc
  | ok j =>
    rw [hj] at hc
    obtain ⟨v, hv, hR⟩ := (listIx_selects sigs).getInt j (C20.checkIndex_lt hj)
    exact (dispatch_int_ok _ hc hv).trans (congrArg Res.ok hR)

theorem getitemL_slice_gen (L : List (List Int)) (a b c : Option (Option Int)) :
    Gen.siglist_getitem L (.slice a b c) =
      if (a == some none || b == some none || c == some none) then .raised .TypeError
      else if c == some (some 0) then .raised .ValueError
      else match Gen.siglist_getitem_slice L (IdxVal.fieldInt? a, IdxVal.fieldInt? b, IdxVal.fieldInt? c) with
        | .ok r => .ok (.many r)
        | .raised e => .raised e
        | .fuelOut => .fuelOut := by
  rw [siglist_getitem_dispatch, Indexed.dispatch_slice]
  show (if _ then _ else if _ then _ else Res.map Py.LSel.many (Gen.siglist_getitem_slice L _)) = _
  cases Gen.siglist_getitem_slice L (IdxVal.fieldInt? a, IdxVal.fieldInt? b, IdxVal.fieldInt? c) <;> rfl

theorem getitemL_arr_ndim (L : List (List Int)) (idx : IdxVal) (a : NdArr) (h : IsArr idx a) (hnd : a.ndim ≠ 1) :
    Gen.siglist_getitem L idx = .raised .IndexError := by
  rw [siglist_getitem_dispatch, dispatch_isArr _ h]
  exact Indexed.dispatchNd_ndim _ hnd

theorem getitemL_arr_kind (L : List (List Int)) (idx : IdxVal) (a : NdArr) (h : IsArr idx a) (hnd : a.ndim = 1)
    (hb : a.kind ≠ 'b') (hi : a.kind ≠ 'i') (hu : a.kind ≠ 'u') :
    Gen.siglist_getitem L idx = .raised .IndexError := by
  rw [siglist_getitem_dispatch, dispatch_isArr _ h]
  exact Indexed.dispatchNd_kind _ hnd hb (fun h => h.elim hi hu)

theorem getitemL_arr_bool_len (sigs : List (List Nat)) (idx : IdxVal) (a : NdArr) (h : IsArr idx a) (hnd : a.ndim = 1)
    (hk : a.kind = 'b') (hl : a.len0 ≠ sigs.length) :
    Gen.siglist_getitem (lV sigs) idx = .raised .IndexError := by
  rw [siglist_getitem_dispatch, dispatch_isArr _ h, Indexed.dispatchNd_bool _ hnd hk, (listIx_selects sigs).len]
  exact if_pos (fun e => hl (Int.ofNat.inj e))

theorem getitemL_arr_bool (sigs : List (List Nat)) (idx : IdxVal) (a : NdArr) (h : IsArr idx a) (hnd : a.ndim = 1)
    (hk : a.kind = 'b') (hl : a.len0 = sigs.length) (r : List (List Int))
    (hr : Gen.siglist_getitem_bool_array (lV sigs) a.bools = .ok r) :
    Gen.siglist_getitem (lV sigs) idx = .ok (.many r) := by
  rw [siglist_getitem_dispatch, dispatch_isArr _ h, Indexed.dispatchNd_bool _ hnd hk, (listIx_selects sigs).len, hl]
  exact (if_neg (fun h => h rfl)).trans ((congrArg (Res.map _) hr).trans (Res.map_ok _ r))

/-- an invariant of the checking loop `for i in index: self._check_index(i)`, for `check_bodyL` below (the tie itself goes through
`check_loopL`, which needs none) -/
def LoopInvL (sigs : List (List Nat)) (a : NdArr) (s : Gen.siglist_getitem.St) : Prop :=
  s.self__list = lV sigs ∧ s.index = .nd a

/-- one iteration of the checking loop -/
theorem check_bodyL (sigs : List (List Nat)) (a : NdArr) (x : Int) (s : Gen.siglist_getitem.St) (hs : LoopInvL sigs a s) :
    Except.bind (call (check_index (↑s.self__list.length) x) : M Gen.siglist_getitem.St Gen.siglist_getitem.Ret Int)
        (fun _ => Except.ok
          { self__list := s.self__list, index := s.index,
            input_index := s.input_index, i_1 := s.i_1, i_2 := x, isneg := s.isneg })
      = chkOut (checkIndex sigs.length x) { s with i_2 := x } .IndexError ∧ LoopInvL sigs a { s with i_2 := x } := by
  refine ⟨?_, hs⟩
  rw [hs.1, lV_length, check_index_eq]
  cases checkIndex sigs.length x <;> rfl

theorem getitemL_arr_ints_bad (sigs : List (List Nat)) (idx : IdxVal) (a : NdArr) (h : IsArr idx a) (hnd : a.ndim = 1)
    (hb : a.kind ≠ 'b') (hiu : a.kind = 'i' ∨ a.kind = 'u') (e : IdxErr) (hn : normIndices sigs.length a.ints = .error e) :
    Gen.siglist_getitem (lV sigs) idx = .raised .IndexError := by
  rw [siglist_getitem_dispatch]
  exact dispatch_arr_ints_bad _ h hnd hb hiu (by rw [(listIx_selects sigs).checkAll_eq]; exact congrArg (chkRes _) hn)

theorem getitemL_arr_ints (sigs : List (List Nat)) (idx : IdxVal) (a : NdArr) (h : IsArr idx a) (hnd : a.ndim = 1)
    (hb : a.kind ≠ 'b') (hiu : a.kind = 'i' ∨ a.kind = 'u') (js : List Nat) (hn : normIndices sigs.length a.ints = .ok js)
    (r : List (List Int)) (hr : Gen.siglist_getitem_int_array (lV sigs) (finalInts sigs.length a) = .ok r) :
    Gen.siglist_getitem (lV sigs) idx = .ok (.many r) := by
  rw [siglist_getitem_dispatch]
  exact dispatch_arr_ints _ h hnd hb hiu (by rw [(listIx_selects sigs).checkAll_eq]; exact congrArg (chkRes _) hn)
    (by rw [(listIx_selects sigs).len]; exact hr)

theorem getitemL_sized_empty (sigs : List (List Nat)) (asarr : Option NdArr) (r : List (List Int))
    (hr : Gen.siglist_getitem_int_array (lV sigs) [] = .ok r) :
    Gen.siglist_getitem (lV sigs) (.sized 0 false asarr) = .ok (.many r) := by
  rw [siglist_getitem_dispatch]
  exact (congrArg (Res.map _) hr).trans (Res.map_ok _ r)

theorem getitemL_sized_none (L : List (List Int)) (n : Nat) (sp : Bool) (hne : ¬ (((n : Nat) : Int) = 0 ∧ sp = false)) :
    Gen.siglist_getitem L (.sized n sp none) = .raised .IndexError := by
  rw [siglist_getitem_dispatch]
  exact if_neg hne

theorem getitemL_unsized (L : List (List Int)) : Gen.siglist_getitem L .unsized = .raised .TypeError :=
  siglist_getitem_dispatch L .unsized

/-- the shape of the stated conclusion, for one outcome of the model -/
def AgreesL (sigs : List (List Nat)) (idx : IdxVal) (m : Except IdxErr (Sel (List Nat))) : Prop :=
  match m with
  | .ok (.one x) => Gen.siglist_getitem (lV sigs) idx = .ok (.one (x.map (fun (v : Nat) => (v : Int))))
  | .ok (.many xs) => Gen.siglist_getitem (lV sigs) idx = .ok (.many (lV xs))
  | .error e => Gen.siglist_getitem (lV sigs) idx = .raised (excOf e)

theorem agreesL_of_follows {sigs : List (List Nat)} {idx : IdxVal} {m : Except IdxErr (Sel (List Nat))}
    (h : Follows (listIx (lV sigs)) SameL idx m) : AgreesL sigs idx m := by
  cases m with
  | error e => exact (siglist_getitem_dispatch _ _).trans h
  | ok t =>
    obtain ⟨r, hr, hR⟩ := h
    rw [← siglist_getitem_dispatch] at hr
    cases t <;> exact hr.trans (congrArg Res.ok hR)

theorem getitemL_arr_eq (sigs : List (List Nat)) (idx : IdxVal) (a : NdArr) (h : IsArr idx a) (hwf : ndWF a)
    (hlen : sigs.length < 2 ^ 63) : AgreesL sigs idx (getItemList sigs (classifyNd a)) := by
  rw [getItemList_eq_get]
  exact agreesL_of_follows ((listIx_selects sigs).nd h (fun _ _ => hwf) (fun _ _ => hlen))

theorem siglist_getitem_agrees (sigs : List (List Nat)) (idx : Py.IdxVal) (hwf : idxWF idx) (hlen : sigs.length < 2 ^ 63) :
    AgreesL sigs idx (getItemList sigs (classify idx)) := by
  rw [getItemList_eq_get]
  exact agreesL_of_follows ((listIx_selects sigs).dispatch idx (fun _ _ => hwf) (fun _ _ => hlen))

/-- the dispatch of `__getitem__`, as the source has it now, on a list-backed collection = the model (what a plain list selects) on
the classified index -/
theorem siglist_getitem_eq (sigs : List (List Nat)) (idx : Py.IdxVal) (hwf : idxWF idx) (hlen : sigs.length < 2 ^ 63) :
    match getItemList sigs (classify idx) with
    | .ok (.one x) => Gen.siglist_getitem (lV sigs) idx = .ok (.one (x.map (fun (v : Nat) => (v : Int))))
    | .ok (.many xs) => Gen.siglist_getitem (lV sigs) idx = .ok (.many (lV xs))
    | .error e => Gen.siglist_getitem (lV sigs) idx = .raised (excOf e) :=
  siglist_getitem_agrees sigs idx hwf hlen

def selOfPyL : Py.LSel → Sel (List Nat)
  | .one x => .one (x.map Int.toNat)
  | .many xs => .many (xs.map (fun g => g.map Int.toNat))

/-- both representations select the same signatures, or raise the same error, for every index expression (C20: "index like a list",
on the code as it is now) -/
theorem py_getitem_same_selection (sigs : List (List Nat)) (idx : Py.IdxVal) (hwf : idxWF idx) (hlen : sigs.length < 2 ^ 63) :
    (∃ r l, Gen.concat_getitem (cV sigs) (cB sigs) idx = .ok r ∧ Gen.siglist_getitem (lV sigs) idx = .ok l ∧ selOfPy r = selOfPyL l)
    ∨ (∃ e, Gen.concat_getitem (cV sigs) (cB sigs) idx = .raised e ∧ Gen.siglist_getitem (lV sigs) idx = .raised e) := by
  have hc := py_getitem_refines_list sigs idx hwf hlen
  have hl := siglist_getitem_agrees sigs idx hwf hlen
  cases hg : getItemList sigs (classify idx) with
  | error e =>
    rw [hg] at hc hl
    exact Or.inr ⟨excOf e, hc, hl⟩
  | ok sel =>
    rw [hg] at hc hl
    obtain ⟨r, hr, hs⟩ := hc
    left
    cases sel with
    | one x =>
      refine ⟨r, _, hr, hl, ?_⟩
      rw [hs]
      show Sel.one x = Sel.one _
      rw [toNat_natCast_map]
    | many xs =>
      refine ⟨r, _, hr, hl, ?_⟩
      rw [hs]
      show Sel.many xs = Sel.many _
      rw [lV_toNat]

/-! ### non-vacuity: the generated dispatch on the list `[[1, 2], [], [7, 8, 9]]` -/

-- the helper methods
example : Gen.siglist_getitem_int_array (lV [[1, 2], [], [7, 8, 9]]) [2, 0, 2] = .ok [[7, 8, 9], [1, 2], [7, 8, 9]]
    ∧ Gen.siglist_getitem_int_array (lV [[1, 2], [], [7, 8, 9]]) [3] = .raised .IndexError
    ∧ Gen.siglist_getitem_slice (lV [[1, 2], [], [7, 8, 9]]) (some 2, none, some (-2)) = .ok [[7, 8, 9], [1, 2]]
    ∧ Gen.siglist_getitem_bool_array (lV [[1, 2], [], [7, 8, 9]]) [false, true, true] = .ok [[], [7, 8, 9]] := by decide
-- an integer index `-1`, the slice `::-1`, a zero step, a field that is not an integer
example : Gen.siglist_getitem (lV [[1, 2], [], [7, 8, 9]]) (.int (-1)) = .ok (.one [7, 8, 9])
    ∧ Gen.siglist_getitem (lV [[1, 2], [], [7, 8, 9]]) (.int 3) = .raised .IndexError
    ∧ Gen.siglist_getitem (lV [[1, 2], [], [7, 8, 9]]) (.slice none none (some (some (-1)))) = .ok (.many [[7, 8, 9], [], [1, 2]])
    ∧ Gen.siglist_getitem (lV [[1, 2], [], [7, 8, 9]]) (.slice none none (some (some 0))) = .raised .ValueError
    ∧ Gen.siglist_getitem (lV [[1, 2], [], [7, 8, 9]]) (.slice (some none) none none) = .raised .TypeError := by decide
-- an unsigned array `[2, 0]`, a signed one with negative entries, an unsigned entry 2^64 - 1
example : Gen.siglist_getitem (lV [[1, 2], [], [7, 8, 9]]) (.nd { ndim := 1, kind := 'u', len0 := 2, ints := [2, 0], bools := [] })
      = .ok (.many [[7, 8, 9], [1, 2]])
    ∧ Gen.siglist_getitem (lV [[1, 2], [], [7, 8, 9]]) (.nd { ndim := 1, kind := 'i', len0 := 3, ints := [-1, -3, 1], bools := [] })
      = .ok (.many [[7, 8, 9], [1, 2], []])
    ∧ Gen.siglist_getitem (lV [[1, 2], [], [7, 8, 9]])
      (.nd { ndim := 1, kind := 'u', len0 := 1, ints := [18446744073709551615], bools := [] }) = .raised .IndexError := by decide +kernel
-- Boolean masks of the right and of the wrong length, a float array, a float, the empty list
example : Gen.siglist_getitem (lV [[1, 2], [], [7, 8, 9]])
      (.nd { ndim := 1, kind := 'b', len0 := 3, ints := [], bools := [true, false, true] }) = .ok (.many [[1, 2], [7, 8, 9]])
    ∧ Gen.siglist_getitem (lV [[1, 2], [], [7, 8, 9]])
      (.nd { ndim := 1, kind := 'b', len0 := 2, ints := [], bools := [true, false] }) = .raised .IndexError
    ∧ Gen.siglist_getitem (lV [[1, 2], [], [7, 8, 9]])
      (.nd { ndim := 1, kind := 'f', len0 := 1, ints := [], bools := [] }) = .raised .IndexError
    ∧ Gen.siglist_getitem (lV [[1, 2], [], [7, 8, 9]]) .unsized = .raised .TypeError
    ∧ Gen.siglist_getitem (lV [[1, 2], [], [7, 8, 9]]) (.sized 0 false none) = .ok (.many []) := by decide
-- the two representations on the same index: the same signatures
example : selOfPy (.many { values := [7, 8, 9, 1, 2], bounds := [0, 3, 5] }) = selOfPyL (.many [[7, 8, 9], [1, 2]]) := by decide

end GambitV.Tie.Py
