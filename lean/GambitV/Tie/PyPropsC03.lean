import GambitV.Tie.PyPropsHelpers
import GambitV.Tie.PyMatching
import GambitV.Tie.PyNext
import GambitV.Tie.PyClassify
import GambitV.Tie.PyReportable
import GambitV.Props.C03

/-!
Property-level statements about the definitions translated from the current Python sources (`GambitV.Gen.*`, regenerated on every run):
the tie theorems composed with the property theorems of `Props/`.  C03: default classification.
-/
namespace GambitV.Tie.Py
open GambitV

/-- the translated `matching_taxon` returns what the statement says: the most specific threshold-bearing taxon of the lineage whose
threshold is not smaller than the distance -/
theorem py_matching_spec (F : Forest) (t d : Nat) : Gen.matching_taxon F t d = .ok (predictedSpec F t d) := by
  rw [matching_taxon_eq, C03.matchingTaxon_eq_spec]

/-- the translated `GenomeMatch.next_taxon` returns the statement's "next taxon" -/
theorem py_next_spec (F : Forest) (hF : ForestWF F) (G : List Nat) (g d : Nat) (hg : G.getD g 0 < F.size) :
    Gen.next_taxon F G g d = .ok (nextSpec F (G.getD g 0) d) := by
  rw [next_taxon_eq F hF G g d hg, C03.next_eq_spec]

/-- coarsening: with a larger distance the translated `matching_taxon` predicts nothing or a taxon at or above the earlier prediction -/
theorem py_coarsen_mono (F : Forest) (t d d' p' : Nat) (h : d ≤ d') (hp' : Gen.matching_taxon F t d' = .ok (some p')) :
    ∃ (p i j : Nat), Gen.matching_taxon F t d = .ok (some p) ∧ i ≤ j ∧ (F.lineage t)[i]? = some p ∧ (F.lineage t)[j]? = some p' := by
  rw [py_matching_spec] at hp'
  have hp'' : predictedSpec F t d' = some p' := by injection hp'
  obtain ⟨p, i, j, h1, h2, h3, h4⟩ := C03.coarsen_mono F t d d' h p' hp''
  exact ⟨p, i, j, by rw [py_matching_spec, h1], h2, h3, h4⟩

/-- the whole default-mode statement (`defaultOk`, the relation the driver evaluates on real results) holds of the translated
`classify(…, strict=False)` together with the translated `next_taxon` and `reportable_taxon` -/
theorem py_classify_default_ok (F : Forest) (hF : ForestWF F) (gtax ds : List Nat) (h : ds.length = gtax.length) (hne : ds ≠ [])
    (hT : ∀ t ∈ gtax, t < F.size) :
    ∃ r nxt rep, Gen.classify F gtax (List.range gtax.length) ds false = .ok r
      ∧ Gen.next_taxon F gtax r.closest_match.genome r.closest_match.distance = .ok nxt
      ∧ Gen.reportable_taxon F r.predicted_taxon = .ok rep
      ∧ defaultOk F gtax ds r.closest_match.genome r.predicted_taxon (r.primary_match.map (·.genome)) nxt rep = true := by
  have hc : argminFirst ds < gtax.length := h ▸ (C03.argminFirst_spec ds hne).1
  refine ⟨resOf F gtax ds (classifyDefault F gtax ds), (classifyDefault F gtax ds).next,
    reportable F (classifyDefault F gtax ds).predicted, classify_default_eq F gtax ds h hne, ?_,
    reportable_taxon_eq F _, ?_⟩
  · exact next_taxon_eq F hF gtax (argminFirst ds) (ds.getD (argminFirst ds) 0) (getD_lt_size hT hc)
  · have := C03.classifyDefault_ok F gtax ds hne
    simp only at this
    simp only [resOf, map_genome_gmOf]
    exact this

end GambitV.Tie.Py
