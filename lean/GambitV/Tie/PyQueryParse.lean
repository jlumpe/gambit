import GambitV.Gen.PyQueryParse

/-!
Tie (structural facts): how genome files become query inputs (labels paired with files in order, signatures with the database's parameters), as it stands in the current source.  Each fact says that one function consists of exactly the expected
statements (harness/flow_facts.json; compared as normalised `ast` text by harness/pytrace.py on every run); reading these statements as the
models do is part of the trusted base (DESIGN §3).
-/
namespace GambitV.Tie.Py

theorem query_parse_facts :
    Gen.pyQueryParse_inputConvert = true ∧ Gen.pyQueryParse_queryParse = true := by decide

end GambitV.Tie.Py
