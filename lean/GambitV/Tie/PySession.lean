import GambitV.Gen.PySession

/-!
Tie: the facts about `gambit/db/sqla.py` that the session model of C18 (`Model/Session.lean`: `stepRO`) rests on, read off the *current*
source on every run by harness/pytrace.py: `ReadOnlySession.flush` does nothing (`flush_noop`), `commit` only raises (`commit_raises`), the
`before_commit` listener raises unconditionally (`txn_commit_raises`, `begin_block_raises`: every commit path goes through it), the class
overrides nothing else, and `file_sessionmaker` hands out that class by default on an engine built from the file URL alone (no
autocommit isolation level).
-/
namespace GambitV.Tie.Py

theorem session_structural_facts :
    Gen.pySessionFlushNoop = true ∧ Gen.pySessionCommitRaises = true ∧ Gen.pySessionHookRaises = true ∧
    Gen.pySessionNoOtherOverrides = true ∧ Gen.pySessionDefaultReadOnly = true ∧ Gen.pySessionEngineDefault = true := by
  decide

end GambitV.Tie.Py
