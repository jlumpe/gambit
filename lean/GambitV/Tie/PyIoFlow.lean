import GambitV.Gen.PyIoFlow

/-!
Tie (structural facts): how a sequence file is opened and parsed (compression decided by name of the scheme or by the first bytes, never by the file name; records from Biopython in file order), as it stands in the current source.  Each fact says that one function consists of exactly the expected
statements (harness/flow_facts.json; compared as normalised `ast` text by harness/pytrace.py on every run); reading these statements as the
models do is part of the trusted base (DESIGN §3).
-/
namespace GambitV.Tie.Py

theorem io_flow_facts :
    Gen.pyIoFlow_openAuto = true ∧ Gen.pyIoFlow_openCompressed = true ∧ Gen.pyIoFlow_maybeOpen = true ∧ Gen.pyIoFlow_seqToBytes = true ∧ Gen.pyIoFlow_seqFileOpen = true ∧ Gen.pyIoFlow_seqFileParse = true ∧ Gen.pyIoFlow_seqFileFromPaths = true ∧ Gen.pyIoFlow_closingIterNext = true ∧ Gen.pyIoFlow_closingIterClose = true ∧ Gen.pyIoFlow_closingIterShape = true := by decide

end GambitV.Tie.Py
