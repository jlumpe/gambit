import GambitV.Gen.PyQueryFlow

/-!
Tie: the data flow of `gambit.query.query`, read off the *current* source by harness/pytrace.py on every run — the glue between the tied
pieces: the distance matrix is `jaccarddist_matrix(queries, db.signatures, ref_indices=db.sig_indices, chunksize=params.chunksize)`
(`Tie/PyBulk.lean`: its cells; `Tie/PyRefDb.lean`: `sig_indices` pairs reference genome j with its own signature), result item i is
`get_result_item(db, params, dmat[i, :], input_i)` (`Tie/PyResultItem.lean`, `Tie/PyClassify.lean`), inputs are checked to be as many as the
queries, and nothing else assigns these names.  A structural tie (statement presence as normalised `ast` text + no other stores): an edit of one of
these statements makes a fact `false`, whatever input it needs in order to show.
-/
namespace GambitV.Tie.Py

theorem query_flow_facts :
    Gen.pyQuery_dists = true ∧ Gen.pyQuery_rows = true ∧ Gen.pyQuery_inputsChecked = true ∧ Gen.pyQuery_noOtherStores = true
      ∧ Gen.pyQuery_result = true := by
  decide

end GambitV.Tie.Py
