import GambitV.Gen.PyCliParams

/-!
Tie (structural facts): the option-group check and the `-k` / `-p` options of the commands, as it stands in the current source.  Each fact says that one function consists of exactly the expected
statements, one class has exactly the expected shape, or one constant the expected value (harness/flow_facts.json; compared as normalised `ast`
text by harness/pytrace.py on every run); reading these as the models do is part of the trusted base (DESIGN §3).
-/
namespace GambitV.Tie.Py

theorem cli_params_facts :
    Gen.pyCliParams_checkParamsGroup = true ∧ Gen.pyCliParams_kspecParams = true := by decide

end GambitV.Tie.Py
