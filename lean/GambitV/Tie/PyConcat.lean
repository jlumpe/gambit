import GambitV.Gen.PyConcat
import GambitV.Model.Indexing
import GambitV.Props.C20
import GambitV.Tie.PyCheckIndex
import GambitV.Lemmas.PyRt
import GambitV.Lemmas.TiePyConcat

/-!
Tie of the machine-translated methods of `ConcatenatedSignatureArray` (gambit/sigs/base.py: `__len__`, `_getitem_int`, `sizeof`,
`_getitem_int_array`, `_getitem_slice`) and of `AdvancedIndexingMixin` (gambit/util/indexing.py: `_getitem_slice`, `_getitem_bool_array`),
`GambitV.Gen.concat_*` / `GambitV.Gen.mixin_*`, to the hand-written model of `Model/Indexing.lean` (`Concat.ofList`, `Concat.get`,
`Concat.gather`, `Concat.sliceView`, `getItemConcat`).  A packed collection is passed as its two arrays (`cV sigs`, `cB sigs`) and a
returned one is read back with `toConcat`.

The two loops of `_getitem_int_array` are shown to be left folds with the clean steps `szStep` (sizes) and `cpStep` (copies); what the
folds compute (`Lemmas/TiePyConcat.lean`) does not mention the generated term.  The last theorem is the C20 property of the translated
slice path.
-/
namespace GambitV.Tie.Py
open GambitV GambitV.Py GambitV.Gen GambitV.TieConcat

/-- the packed representation of a list of signatures as the translated methods receive it -/
def cV (sigs : List (List Nat)) : List Int := (Concat.ofList sigs).values.map (fun (x : Nat) => (x : Int))
def cB (sigs : List (List Nat)) : List Int := (Concat.ofList sigs).bounds.map (fun (x : Nat) => (x : Int))
/-- a packed collection returned by the translated methods, read back as the model's `Concat` -/
def toConcat (c : Py.CArr) : Concat := { values := c.values.map Int.toNat, bounds := c.bounds.map Int.toNat }

theorem cV_eq (sigs : List (List Nat)) : cV sigs = pV sigs := rfl
theorem cB_eq (sigs : List (List Nat)) : cB sigs = pB sigs := rfl

theorem concat_len_eq (sigs : List (List Nat)) : Gen.concat_len (cV sigs) (cB sigs) = .ok (sigs.length : Int) := by
  unfold Gen.concat_len Gen.concat_len.run
  simp only [py_eval, cB_eq, pB_length_sub_one]

theorem concat_getitem_int_eq (sigs : List (List Nat)) (i : Nat) (hi : i < sigs.length) :
    Gen.concat_getitem_int (cV sigs) (cB sigs) (i : Int) = .ok ((sigs.getD i []).map (fun (x : Nat) => (x : Int))) := by
  unfold Gen.concat_getitem_int Gen.concat_getitem_int.run
  simp only [py_eval, cB_eq, cV_eq, getItem?_pB sigs i (by omega), getItem?_pB_succ sigs i hi, slice_pV]

theorem concat_sizeof_eq (sigs : List (List Nat)) (i : Int) :
    Gen.concat_sizeof (cV sigs) (cB sigs) i = (match checkIndex sigs.length i with
      | .ok j => .ok (((sigs.getD j []).length : Nat) : Int)
      | .error _ => .raised .IndexError) := by
  unfold Gen.concat_sizeof Gen.concat_sizeof.run
  simp only [cB_eq, cV_eq, pB_length_sub_one, check_index_eq]
  cases hc : checkIndex sigs.length i with
  | error e => simp only [py_eval]
  | ok j =>
    have hj := C20.checkIndex_lt hc
    simp only [py_eval, getItem?_pB sigs j (by omega), getItem?_pB_succ sigs j hj, bnd_succ sigs j hj]
    have : (((bnd sigs j + (sigs.getD j []).length : Nat) : Int) - ((bnd sigs j : Nat) : Int)) = (((sigs.getD j []).length : Nat) : Int) := by
      omega
    rw [this]

theorem concat_sizeof_nat (sigs : List (List Nat)) (j : Nat) (hj : j < sigs.length) :
    Gen.concat_sizeof (cV sigs) (cB sigs) (j : Int) = .ok (((sigs.getD j []).length : Nat) : Int) := by
  rw [concat_sizeof_eq, checkIndex_natCast hj]

/-- one iteration of `[self.sizeof(i) for i in indices]` -/
def szStep (sigs : List (List Nat)) (s : Gen.concat_getitem_int_array.St) (x : Int) : Gen.concat_getitem_int_array.St :=
  { s with i := x, tmp__L1 := s.tmp__L1 ++ [(((sigs.getD x.toNat []).length : Nat) : Int)] }

/-- one iteration of `for i, idx in enumerate(indices): np.copyto(out[i], self._getitem_int(idx))` -/
def cpStep (sigs : List (List Nat)) (s : Gen.concat_getitem_int_array.St) (x : Int × Int) : Gen.concat_getitem_int_array.St :=
  { s with i := x.1, idx := x.2, out := s.out.putItem x.1 ((sigs.getD x.2.toNat []).map (fun (v : Nat) => (v : Int))) }

theorem foldl_szStep (sigs : List (List Nat)) (js : List Nat) (s : Gen.concat_getitem_int_array.St) :
    let s' := (js.map (fun (j : Nat) => (j : Int))).foldl (szStep sigs) s
    s'.self_values = s.self_values ∧ s'.self_bounds = s.self_bounds ∧ s'.indices = s.indices
      ∧ s'.tmp__L1 = s.tmp__L1 ++ (js.map (fun j => sigs.getD j [])).map (fun g => ((g.length : Nat) : Int)) := by
  induction js generalizing s with
  | nil => exact ⟨rfl, rfl, rfl, (List.append_nil _).symm⟩
  | cons j js ih =>
    obtain ⟨h1, h2, h3, h4⟩ := ih (szStep sigs s (j : Int))
    refine ⟨h1, h2, h3, ?_⟩
    rw [List.map_cons, List.foldl_cons, h4]
    simp only [szStep, Int.toNat_natCast, List.append_assoc, List.singleton_append, List.map_cons]

theorem foldl_cpStep_out (sigs : List (List Nat)) (l : List (Int × Int)) (s : Gen.concat_getitem_int_array.St) :
    (l.foldl (cpStep sigs) s).out
      = l.foldl (fun (c : CArr) (x : Int × Int) => c.putItem x.1 ((sigs.getD x.2.toNat []).map (fun (v : Nat) => (v : Int)))) s.out :=
  (List.foldl_hom Gen.concat_getitem_int_array.St.out fun _ _ => rfl).symm

/-- `_getitem_int_array` on non-negative in-range indices: the packed representation of the selected signatures -/
theorem concat_getitem_int_array_val (sigs : List (List Nat)) (js : List Nat) (h : ∀ j ∈ js, j < sigs.length) :
    Gen.concat_getitem_int_array (cV sigs) (cB sigs) (js.map (fun (j : Nat) => (j : Int)))
      = .ok { values := cV (js.map (fun j => sigs.getD j [])), bounds := cB (js.map (fun j => sigs.getD j [])) } := by
  unfold Gen.concat_getitem_int_array Gen.concat_getitem_int_array.run
  refine finish_bind_loop (fun s => s.self_values = cV sigs ∧ s.self_bounds = cB sigs
      ∧ s.indices = js.map (fun (j : Nat) => (j : Int))
      ∧ s.tmp__L1 = (js.map (fun j => sigs.getD j [])).map (fun g => ((g.length : Nat) : Int)))
    ⟨_, forEach_fold rfl (fun s => s.self_values = cV sigs ∧ s.self_bounds = cB sigs)
      (fun x => ∃ j : Nat, x = (j : Int) ∧ j < sigs.length) (szStep sigs) ?_ ?_ ⟨rfl, rfl⟩, foldl_szStep sigs js _⟩ ?_
  · rintro x ⟨sv, sb, ind, tmp, i0, out, idx⟩ ⟨j, rfl, hj⟩ ⟨rfl, rfl⟩
    refine ⟨?_, rfl, rfl⟩
    simp only [concat_sizeof_nat sigs j hj, py_eval, szStep, Int.toNat_natCast]
  · intro x hx
    obtain ⟨j, hj, rfl⟩ := List.mem_map.1 hx
    exact ⟨j, rfl, h j hj⟩
  rintro ⟨sv, sb, ind, tmp, i0, out, idx⟩ ⟨rfl, rfl, rfl, rfl⟩
  generalize hG : js.map (fun j => sigs.getD j []) = G
  simp only [uninitialized_sizes]
  refine finish_bind_loop (fun s => s.out = { values := cV G, bounds := cB G })
    ⟨_, forEach_fold rfl
      (fun s => s.self_values = cV sigs ∧ s.self_bounds = cB sigs ∧ s.out.bounds = pB G
        ∧ s.out.values.length = G.flatten.length)
      (fun x => ∃ t j : Nat, x = ((t : Int), (j : Int)) ∧ j < sigs.length ∧ t < G.length ∧ G.getD t [] = sigs.getD j [])
      (cpStep sigs) ?_ ?_ ⟨rfl, rfl, rfl, List.length_replicate⟩, ?_⟩ ?_
  · rintro x ⟨sv, sb, ind, tmp, i0, out, idx⟩ ⟨t, j, rfl, hj, ht, hGt⟩ ⟨rfl, rfl, hP3, hP4⟩
    obtain ⟨q1, q2, q3⟩ := putItem_ok G out hP3 hP4 t ht ((sigs.getD j []).map (fun (v : Nat) => (v : Int)))
      (by rw [List.length_map, hGt])
    refine ⟨?_, rfl, rfl, ?_, ?_⟩
    · simp only [concat_getitem_int_eq sigs j hj, py_eval, q1, cpStep, Int.toNat_natCast]
    · simpa only [cpStep, Int.toNat_natCast] using q2
    · simpa only [cpStep, Int.toNat_natCast] using q3
  · intro x hx
    obtain ⟨t, ht, rfl⟩ := Py.mem_enumerate _ x hx
    rw [List.length_map] at ht
    refine ⟨t, js[t], ?_, h _ (List.getElem_mem ht), ?_, ?_⟩
    · rw [List.getElem_map]
    · rw [← hG, List.length_map]; exact ht
    · rw [← hG, List.getD_eq_getElem?_getD, List.getElem?_map, List.getElem?_eq_getElem ht]
      rfl
  · subst hG
    rw [foldl_cpStep_out]
    exact copy_all (fun j => sigs.getD j []) js
  · intro s hs
    simp only [py_eval, hs]

theorem toConcat_packed (G : List (List Nat)) : toConcat { values := cV G, bounds := cB G } = Concat.ofList G := by
  unfold toConcat cV cB
  simp only [toNat_natCast_map]

theorem gather_eq (sigs : List (List Nat)) (js : List Nat) :
    (Concat.ofList sigs).gather js = Concat.ofList (js.map (fun j => sigs.getD j [])) := by
  unfold Concat.gather
  have : (Concat.ofList sigs).get = fun j => sigs.getD j [] := funext (ofList_getD sigs)
  rw [this]

/-- `_getitem_int_array` on non-negative in-range indices (its documented precondition): the gathered collection -/
theorem concat_getitem_int_array_eq (sigs : List (List Nat)) (js : List Nat) (h : ∀ j ∈ js, j < sigs.length) :
    ∃ r, Gen.concat_getitem_int_array (cV sigs) (cB sigs) (js.map (fun (j : Nat) => (j : Int))) = .ok r
      ∧ toConcat r = (Concat.ofList sigs).gather js ∧ (∀ v ∈ r.values, 0 ≤ v) ∧ (∀ b ∈ r.bounds, 0 ≤ b) := by
  refine ⟨_, concat_getitem_int_array_val sigs js h, ?_, ?_, ?_⟩
  · rw [toConcat_packed, gather_eq]
  · intro v hv
    obtain ⟨x, _, rfl⟩ := List.mem_map.1 hv
    exact Int.natCast_nonneg x
  · intro b hb
    obtain ⟨x, _, rfl⟩ := List.mem_map.1 hb
    exact Int.natCast_nonneg x

theorem mixin_getitem_bool_array_eq (sigs : List (List Nat)) (m : List Bool) (hm : m.length = sigs.length) :
    ∃ r, Gen.mixin_getitem_bool_array (cV sigs) (cB sigs) m = .ok r ∧ toConcat r = (Concat.ofList sigs).gather (flatnonzero m) := by
  have h : ∀ j ∈ flatnonzero m, j < sigs.length := fun j hj => hm ▸ flatnonzero_lt m j hj
  refine ⟨_, ?_, (toConcat_packed _).trans (gather_eq sigs (flatnonzero m)).symm⟩
  unfold Gen.mixin_getitem_bool_array Gen.mixin_getitem_bool_array.run
  simp only [py_eval, concat_getitem_int_array_val sigs (flatnonzero m) h]

theorem cB_len_toNat (sigs : List (List Nat)) : ((((cB sigs).length : Nat) : Int) - 1).toNat = sigs.length := by
  rw [cB_eq, pB_length_sub_one, Int.toNat_natCast]

theorem step_beq_false (c : Option Int) (hc : c ≠ some 0) : (c == some 0) = false :=
  beq_false_of_ne hc

/-- the positions selected by a slice, as natural numbers -/
def slicePos (n : Nat) (a b c : Option Int) : List Nat :=
  (arange (sliceIndices n a b c).1 (sliceIndices n a b c).2.1 (sliceIndices n a b c).2.2).map Int.toNat

theorem slicePos_cast (n : Nat) (a b c : Option Int) (hc : c ≠ some 0) :
    (slicePos n a b c).map (fun (j : Nat) => (j : Int))
      = arange (sliceIndices n a b c).1 (sliceIndices n a b c).2.1 (sliceIndices n a b c).2.2 :=
  natCast_toNat_map _ (fun j hj => (C20.slice_in_range n a b c hc _ _ _ rfl j hj).1)

theorem slicePos_lt (n : Nat) (a b c : Option Int) (hc : c ≠ some 0) : ∀ j ∈ slicePos n a b c, j < n := by
  intro j hj
  obtain ⟨x, hx, rfl⟩ := List.mem_map.1 hj
  have := C20.slice_in_range n a b c hc _ _ _ rfl x hx
  omega

theorem normIndices_slice (n : Nat) (a b c : Option Int) (hc : c ≠ some 0) :
    normIndices n (arange (sliceIndices n a b c).1 (sliceIndices n a b c).2.1 (sliceIndices n a b c).2.2)
      = .ok (slicePos n a b c) :=
  normIndices_nonneg n _ (C20.slice_in_range n a b c hc _ _ _ rfl)

/-- the mixin's `_getitem_slice`: `_getitem_int_array` on the positions of the slice -/
theorem mixin_getitem_slice_eq (sigs : List (List Nat)) (a b c : Option Int) (hc : c ≠ some 0) :
    Gen.mixin_getitem_slice (cV sigs) (cB sigs) (a, b, c)
      = .ok { values := cV ((slicePos sigs.length a b c).map (fun j => sigs.getD j [])),
              bounds := cB ((slicePos sigs.length a b c).map (fun j => sigs.getD j [])) } := by
  unfold Gen.mixin_getitem_slice Gen.mixin_getitem_slice.run
  simp only [py_eval, step_beq_false c hc, cB_len_toNat, ← slicePos_cast sigs.length a b c hc,
    concat_getitem_int_array_val sigs _ (slicePos_lt sigs.length a b c hc)]

theorem mixin_getitem_slice_zero (sigs : List (List Nat)) (a b : Option Int) :
    Gen.mixin_getitem_slice (cV sigs) (cB sigs) (a, b, some 0) = .raised .ValueError := by
  unfold Gen.mixin_getitem_slice Gen.mixin_getitem_slice.run
  simp only [py_eval, BEq.rfl]

theorem concat_getitem_slice_zero (sigs : List (List Nat)) (a b : Option Int) :
    Gen.concat_getitem_slice (cV sigs) (cB sigs) (a, b, some 0) = .raised .ValueError := by
  unfold Gen.concat_getitem_slice Gen.concat_getitem_slice.run
  simp only [py_eval, BEq.rfl]

/-- `_getitem_slice` (fast contiguous path and the fallback through the mixin) = the model's slice branch of `getItemConcat` -/
theorem concat_getitem_slice_eq (sigs : List (List Nat)) (a b c : Option Int) (hc : c ≠ some 0) :
    ∃ r, Gen.concat_getitem_slice (cV sigs) (cB sigs) (a, b, c) = .ok r
      ∧ getItemConcat (Concat.ofList sigs) (.slice a b c) = .ok (.many (toConcat r)) := by
  rcases hp : sliceIndices sigs.length a b c with ⟨s, e, st⟩
  by_cases hslow : st ≠ 1 ∨ e ≤ s
  · -- fallback: the mixin's `_getitem_slice`
    refine ⟨{ values := cV ((slicePos sigs.length a b c).map (fun j => sigs.getD j [])),
              bounds := cB ((slicePos sigs.length a b c).map (fun j => sigs.getD j [])) }, ?_, ?_⟩
    · have hcond : (decide (st ≠ 1) || decide (e ≤ s)) = true := by simpa using hslow
      unfold Gen.concat_getitem_slice Gen.concat_getitem_slice.run
      simp only [py_eval, step_beq_false c hc, cB_len_toNat, hp, hcond, mixin_getitem_slice_eq sigs a b c hc]
    · have hn := normIndices_slice sigs.length a b c hc
      simp only [hp] at hn
      simp only [getItemConcat, if_neg hc, ofList_len, hp, if_pos hslow, hn, toConcat_packed, gather_eq]
      rfl
  · -- contiguous fast path
    obtain ⟨sn, en, rfl, rfl, rfl, hse, hen⟩ := C20.sliceIndices_fast hc hp hslow
    have hcond : (decide ((1 : Int) ≠ 1) || decide ((en : Int) ≤ (sn : Int))) = false := by simpa using hslow
    refine ⟨{ values := Py.slice (pV sigs) (some ((bnd sigs sn : Nat) : Int)) (some ((bnd sigs en : Nat) : Int)),
              bounds := (Py.slice (pB sigs) (some (sn : Int)) (some ((en : Int) + 1))).map
                (fun (x_ : Int) => x_ - ((bnd sigs sn : Nat) : Int)) }, ?_, ?_⟩
    · unfold Gen.concat_getitem_slice Gen.concat_getitem_slice.run
      simp only [py_eval, step_beq_false c hc, cB_eq, cV_eq, pB_length_sub_one, Int.toNat_natCast, hp, hcond,
        getItem?_pB sigs sn (by omega), getItem?_pB sigs en (by omega), Option.isNone_some, Option.getD_some]
    · simp only [getItemConcat, if_neg hc, ofList_len, hp, if_neg hslow, Int.toNat_natCast]
      unfold toConcat
      simp only [view_eq]

/-- PROPERTY (C20) of the translated slice path: a slice of a packed collection denotes exactly the signatures a plain list would select -/
theorem py_concat_slice_refines_list (sigs : List (List Nat)) (a b c : Option Int) (hc : c ≠ some 0) :
    ∃ r, Gen.concat_getitem_slice (cV sigs) (cB sigs) (a, b, c) = .ok r
      ∧ getItemList sigs (.slice a b c) = .ok (.many (toConcat r).toList) := by
  obtain ⟨r, h1, h2⟩ := concat_getitem_slice_eq sigs a b c hc
  refine ⟨r, h1, ?_⟩
  rw [← C20.concat_refines_list sigs (.slice a b c), h2]
  rfl

/-! ### non-vacuity: the generated methods on the collection `[[1,2,3],[],[7],[4,5],[9,9,9,9]]` -/

-- fast path: `c[1:4]` is a view with re-based bounds
example : Gen.concat_getitem_slice (cV [[1, 2, 3], [], [7], [4, 5], [9, 9, 9, 9]]) (cB [[1, 2, 3], [], [7], [4, 5], [9, 9, 9, 9]])
    (some 1, some 4, none) = .ok { values := [7, 4, 5], bounds := [0, 0, 1, 3] } := by decide
-- fallback through the mixin: `c[4:0:-2]` is gathered into a fresh array
example : Gen.concat_getitem_slice (cV [[1, 2, 3], [], [7], [4, 5], [9, 9, 9, 9]]) (cB [[1, 2, 3], [], [7], [4, 5], [9, 9, 9, 9]])
    (some 4, some 0, some (-2)) = .ok { values := [9, 9, 9, 9, 7], bounds := [0, 4, 5] } := by decide +kernel
example : Gen.concat_getitem_slice (cV [[1, 2, 3], [], [7]]) (cB [[1, 2, 3], [], [7]]) (some 0, none, some 0)
    = .raised .ValueError := by decide
-- a negative index is outside the precondition of `_getitem_int_array`: `np.copyto` sees a length mismatch
example : Gen.concat_getitem_int_array (cV [[1, 2, 3], [], [7]]) (cB [[1, 2, 3], [], [7]]) [-1] = .raised .ValueError := by decide
example : Gen.concat_getitem_int_array (cV [[1, 2, 3], [], [7]]) (cB [[1, 2, 3], [], [7]]) [2, 0, 1, 2]
    = .ok { values := [7, 1, 2, 3, 7], bounds := [0, 1, 4, 4, 5] } := by decide +kernel
example : Gen.mixin_getitem_bool_array (cV [[1, 2, 3], [], [7]]) (cB [[1, 2, 3], [], [7]]) [true, false, true]
    = .ok { values := [1, 2, 3, 7], bounds := [0, 3, 4] } := by decide
example : Gen.concat_sizeof (cV [[1, 2, 3], [], [7]]) (cB [[1, 2, 3], [], [7]]) (-3) = .ok 3
    ∧ Gen.concat_sizeof (cV [[1, 2, 3], [], [7]]) (cB [[1, 2, 3], [], [7]]) 3 = .raised .IndexError
    ∧ Gen.concat_len (cV [[1, 2, 3], [], [7]]) (cB [[1, 2, 3], [], [7]]) = .ok 3
    ∧ Gen.concat_getitem_int (cV [[1, 2, 3], [], [7]]) (cB [[1, 2, 3], [], [7]]) 2 = .ok [7] := by decide
-- the model on the same slices
example : (Concat.ofList [[1, 2, 3], [], [7], [4, 5], [9, 9, 9, 9]]).sliceView 1 4 = { values := [7, 4, 5], bounds := [0, 0, 1, 3] }
    ∧ (Concat.ofList [[1, 2, 3], [], [7], [4, 5], [9, 9, 9, 9]]).gather [4, 2] = { values := [9, 9, 9, 9, 7], bounds := [0, 4, 5] } := by
  decide

end GambitV.Tie.Py
