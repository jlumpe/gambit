import GambitV.Tie.PyJson
import GambitV.Props.C11Json
import GambitV.Props.C11JsonSpec

/-!
The properties of the JSON exporters stated of the conversion rules *read from the current source* (`Gen.pyJsonExporter`,
`Gen.pyArchiveExporter`).
-/
namespace GambitV.Tie.Py
open GambitV GambitV.Json

theorem py_json_item (n : Nat) (it : JItem) : encode Gen.pyJsonExporter (n + 4) it.toPVal = some (itemJson it) := by
  rw [json_rules_eq]; exact json_item n it

theorem py_json_results (n : Nat) (items : List JItem) (p : PVal) (rest : List (List Char × PVal)) (restJ : List (List Char × Json))
    (hrest : ∀ kv ∈ rest, kv.1 ≠ "params".toList)
    (henc : encodeFields Gen.pyJsonExporter (n + 5) rest = some restJ) :
    encode Gen.pyJsonExporter (n + 6) (.inst "QueryResults".toList true (("items".toList, .list (items.map JItem.toPVal)) :: ("params".toList, p) :: rest))
      = some (.obj (("items".toList, .arr (items.map itemJson)) :: restJ)) := by
  rw [json_rules_eq] at henc ⊢
  exact json_results n items p rest restJ hrest henc

/-- what the current `JSONResultsExporter` writes for a query carries its label, reported taxon, next taxon and closest genomes -/
theorem py_json_carries (n : Nat) (it : JItem) :
    ∃ j, encode Gen.pyJsonExporter (n + 4) it.toPVal = some j ∧ itemCarried it.toPVal j = true :=
  ⟨itemJson it, py_json_item n it, itemCarried_json it⟩

theorem py_archive_item (n : Nat) (it : JItem) : encode Gen.pyArchiveExporter (n + 4) it.toPVal = some (archiveItemJson it) := by
  rw [archive_rules_eq]; exact archive_item n it

/-- what the current `ResultsArchiveWriter` writes for two items is the same exactly when they agree on the keys of their database objects,
their distances (bit patterns), warnings, error, success flag, label and file -/
theorem py_archive_keys (n : Nat) (a b : JItem) :
    encode Gen.pyArchiveExporter (n + 4) a.toPVal = encode Gen.pyArchiveExporter (n + 4) b.toPVal ↔ a.keys = b.keys := by
  rw [py_archive_item, py_archive_item, Option.some.injEq]
  exact ⟨archive_faithful a b, archive_keys_only a b⟩

end GambitV.Tie.Py
