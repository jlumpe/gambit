import GambitV.Gen.PyKmerWrappers
import GambitV.Lemmas.PyRt

/-!
Tie: the generated translations of the small functions of `gambit/kmers.py` (`nkmers`, `index_dtype`,
`kmer_to_index`, `kmer_to_index_rc`) equal the hand-written models of `Model/Kmers.lean`.
-/
namespace GambitV.Tie.Py
open GambitV

/-- `nkmers(k) = 4 ** k` for `k ≥ 0`. -/
theorem nkmers_eq (k : Nat) : Gen.nkmers (k : Int) = .ok ((4 ^ k : Nat) : Int) := by
  unfold Gen.nkmers Gen.nkmers.run
  simp only [py_eval, Int.toNat_natCast, Int.natCast_pow, Int.cast_ofNat_Int]

/-- `nkmers(k)` for `k < 0` raises (the translator's guard in front of `4 ** k`; class `Other`). -/
theorem nkmers_neg (k : Int) (h : k < 0) : Gen.nkmers k = .raised .Other := by
  unfold Gen.nkmers Gen.nkmers.run
  have hk : decide (k < 0) = true := by simpa using h
  simp only [hk, py_eval]

example : Gen.nkmers 3 = .ok 64 := by decide
example : Gen.nkmers (-1) = .raised .Other := by decide

/-- `index_dtype(k)`: item size of the smallest unsigned type holding `4^k - 1`, `None` for `k > 32`. -/
theorem index_dtype_eq (k : Nat) :
    Gen.index_dtype (k : Int) = .ok ((indexDtypeBytes k).map (fun (b : Nat) => (b : Int))) := by
  unfold Gen.index_dtype Gen.index_dtype.run indexDtypeBytes
  -- `OfNat.ofNat n` matches each of the four literals `4`, `8`, `16`, `32`, so the one equation moves all four comparisons to `Nat`
  have h (n : Nat) : decide ((k : Int) ≤ OfNat.ofNat n) = decide (k ≤ n) := decide_eq_decide.mpr Int.ofNat_le
  simp only [h, apply_ite (Py.finish _), py_eval, decide_eq_true_eq, apply_ite (Option.map _),
    apply_ite Py.Res.ok, Option.map_some, Option.map_none]
  rfl

/-- `index_dtype(k)` for any `k ≤ 4` (negative ones included) is the one-byte type. -/
theorem index_dtype_neg (k : Int) (h : k ≤ 4) : Gen.index_dtype k = .ok (some 1) := by
  unfold Gen.index_dtype Gen.index_dtype.run
  have h4 : decide (k ≤ 4) = true := by simpa using h
  simp only [h4, py_eval]

example : Gen.index_dtype 11 = .ok (some 4) := by decide
example : Gen.index_dtype 33 = .ok none := by decide
example : Gen.index_dtype (-7) = .ok (some 1) := by decide

/-- `kmer_to_index(kmer)`: the index, or `ValueError` where the model reports an error. -/
theorem kmer_to_index_eq (s : List UInt8) :
    Gen.kmer_to_index s =
      (match kmerToIndex s with | .ok i => .ok (i : Int) | .error _ => .raised .ValueError) := by
  unfold Gen.kmer_to_index Gen.kmer_to_index.run
  cases kmerToIndex s with
  | ok i => simp only [py_eval]
  | error e => simp only [py_eval]

/-- `kmer_to_index_rc(kmer)`: the index of the reverse complement, or `ValueError`. -/
theorem kmer_to_index_rc_eq (s : List UInt8) :
    Gen.kmer_to_index_rc s =
      (match kmerToIndexRc s with | .ok i => .ok (i : Int) | .error _ => .raised .ValueError) := by
  unfold Gen.kmer_to_index_rc Gen.kmer_to_index_rc.run
  cases kmerToIndexRc s with
  | ok i => simp only [py_eval]
  | error e => simp only [py_eval]

/-! non-vacuity -/
example : Gen.kmer_to_index [65, 67, 71, 84] = .ok 27 := by decide
example : Gen.kmer_to_index [65, 78] = .raised .ValueError := by decide
example : Gen.kmer_to_index_rc [65, 67, 71, 84] = .ok 27 := by decide

end GambitV.Tie.Py
