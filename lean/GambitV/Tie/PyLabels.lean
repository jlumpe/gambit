import GambitV.Gen.PyLabels
import GambitV.Lemmas.PyRt
import GambitV.Lemmas.Cli
import GambitV.Model.SeqFiles

/-!
Tie: the generated translations of `strip_extensions`, `strip_seq_file_ext`, `get_file_id`
(`gambit/cli/common.py`) equal the hand-written models of `Model/Cli.lean` (`get_file_id` with its two flags: `fileId` of `Model/SeqFiles.lean`).

`strip_extensions` returns `filename[:-len(ext)]`.  For a non-empty matching `ext` that is the model's
`take (length - len ext)`; for `ext = ""` (which every name ends with) Python's `filename[:-0]` is `filename[:0]`,
the empty string, while the model keeps the name — hence the hypothesis that no extension is empty.
The extensions `get_file_id` passes are literals, all non-empty.  Core Lean only.
-/
namespace GambitV.Tie.Py
open GambitV GambitV.Py GambitV.Cli

theorem strip_extensions_eq (name : List Char) (exts : List (List Char)) (h : ∀ e ∈ exts, e ≠ []) :
    Gen.strip_extensions name exts = .ok (stripExtensions name exts) := by
  unfold Gen.strip_extensions Gen.strip_extensions.run
  simp only [bind, Except.bind]
  generalize hw : Py.forEach _ _ _ = w
  rw [stripExtensions_find]
  rcases Py.forEach_findRet hw (fun s => s.filename = name) (fun e => endsWith name e)
      (fun e => Py.slice name none (some (-(e.length : Int))))
      (by
        intro x s hs hp
        subst hs
        simp only [hp, if_true]
        rfl)
      (by
        intro x s hs hp
        subst hs
        refine ⟨{ s with ext := x }, ?_, rfl⟩
        simp only [hp, Bool.false_eq_true, if_false]
        rfl)
      rfl with ⟨a, hf, rfl⟩ | ⟨hf, s', rfl, hs'⟩
  · have hmem : a ∈ exts := List.mem_of_find?_eq_some hf
    have hpos : 1 ≤ a.length := List.length_pos_iff.2 (h a hmem)
    simp only [hf, Py.finish_ret, slice_dropLast name a.length hpos]
  · simp only [hf, hs', py_eval]

/-- the `ext = ""` corner really differs: Python's `name[:-0]` is empty, the model keeps the name -/
example : Gen.strip_extensions "ab".toList [[]] = .ok [] := by decide +kernel
example : stripExtensions "ab".toList [[]] = "ab".toList := by decide +kernel
example : Gen.strip_extensions "ab".toList [[]] ≠ .ok (stripExtensions "ab".toList [[]]) := by decide +kernel

theorem strip_seq_file_ext_eq (name : List Char) : Gen.strip_seq_file_ext name = .ok (stripSeqExt name) := by
  unfold Gen.strip_seq_file_ext Gen.strip_seq_file_ext.run
  have h1 : ∀ n, Gen.strip_extensions n [(".gz").toList] = .ok (stripExtensions n gzipExts) :=
    fun n => strip_extensions_eq n _ (by decide +kernel)
  have h2 : ∀ n, Gen.strip_extensions n
      [(".fasta").toList, (".fna").toList, (".ffn").toList, (".faa").toList, (".frn").toList, (".fa").toList]
        = .ok (stripExtensions n fastaExts) :=
    fun n => strip_extensions_eq n _ (by decide +kernel)
  simp only [h1, h2, stripSeqExt, py_eval]

theorem get_file_id_fileId (path : List Char) (sd se : Bool) : Gen.get_file_id path sd se = .ok (fileId sd se path) := by
  unfold Gen.get_file_id Gen.get_file_id.run
  cases sd
  · simp only [fileId, py_eval]
  · cases se <;> simp only [strip_seq_file_ext_eq, fileId, py_eval]

theorem get_file_id_eq (path : List Char) : Gen.get_file_id path true true = .ok (fileLabel path) := by
  simp only [get_file_id_fileId, fileId, fileLabel, if_true]

theorem get_file_id_nostrip (path : List Char) (b : Bool) : Gen.get_file_id path false b = .ok path :=
  get_file_id_fileId path false b

theorem get_file_id_noext (path : List Char) : Gen.get_file_id path true false = .ok (basename path) :=
  get_file_id_fileId path true false

/-! non-vacuity: the generated functions evaluated on concrete names -/
-- the literals are first rewritten to lists of characters: evaluating `"…".toList` is quadratic in the length for the kernel
example : Gen.get_file_id "a/b/gen.fa.gz".toList true true = .ok "gen".toList := by
  repeat rw [String.toList_ofList]
  decide +kernel
example : Gen.get_file_id "a/b/gen.fasta".toList true true = .ok "gen".toList := by
  repeat rw [String.toList_ofList]
  decide +kernel
example : Gen.get_file_id "a/b/gen.fa.gz".toList true false = .ok "gen.fa.gz".toList := by
  repeat rw [String.toList_ofList]
  decide +kernel
example : Gen.get_file_id "a/b/gen.fa.gz".toList false true = .ok "a/b/gen.fa.gz".toList := by
  repeat rw [String.toList_ofList]
  decide +kernel
example : Gen.strip_seq_file_ext "x.gz.fna".toList = .ok "x.gz".toList := by
  repeat rw [String.toList_ofList]
  decide +kernel
example : Gen.strip_extensions "x.fa.fa".toList fastaExts = .ok "x.fa".toList := by
  repeat rw [String.toList_ofList]
  decide +kernel

end GambitV.Tie.Py
