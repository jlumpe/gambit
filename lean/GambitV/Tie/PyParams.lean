import GambitV.Gen.PyParams
import GambitV.Props.C14
import GambitV.Lemmas.PyRt
import GambitV.Lemmas.TiePyParams

/-!
Tie: the generated translations of `kspec_from_params` (gambit/cli/common.py) and of the parameter-reconciling fragments of `dist_cmd`
(gambit/cli/dist.py) and `create` (gambit/cli/signatures.py) equal the hand-written model of `Model/Params.lean` (`explicitSpec`,
`distDecision`, `createDecision`); the C14 property `run_implies_same_params` is transferred to the translated `dist` fragment.

Text vs bytes: the translated code upper-cases the prefix as text, encodes it as ASCII, validates it and `KmerSpec` upper-cases the bytes
again; the model upper-cases bytes.  `Lemmas/TiePyParams.lean` shows the two agree for bytes below 128.
-/
namespace GambitV.Tie.Py
open GambitV GambitV.TiePyParams

/-- the model's parameter record in the shape of the translated code -/
def toPyKS (s : KSpec) : Py.KSpec := { k := (s.k : Int), pre := s.pre }
/-- a prefix option as the command line hands it over (text) -/
def textOf (b : List UInt8) : List Char := b.map (fun c => Char.ofNat c.toNat)

/-- the model's decision in the shape of the translated fragments: an error is a `ClickException`, otherwise the parameters used -/
def decisionRes : Decision → Py.Res (Option Py.KSpec)
  | .error => .raised .Other
  | .run u => .ok (some (toPyKS u))

theorem textOf_eq (p : List UInt8) : textOf p = p.map charOf := rfl

theorem textOf_length (p : List UInt8) : (textOf p).length = p.length := by simp [textOf]

theorem toPyKS_inj {a b : KSpec} (h : toPyKS a = toPyKS b) : a = b := by
  cases a; cases b
  simp only [toPyKS, Py.KSpec.mk.injEq, Int.natCast_inj] at h
  simp [h.1, h.2]

theorem toPyKS_ne_iff (a b : KSpec) : (toPyKS a ≠ toPyKS b) ↔ a ≠ b :=
  ⟨fun h e => h (e ▸ rfl), fun h e => h (toPyKS_inj e)⟩

/-- `kspec_from_params(k, prefix, default)` = the model's `explicitSpec` (ASCII prefixes: bytes below 128); the flag only decides what
"nothing given" yields -/
theorem kspec_from_params_total (D : Py.KSpec) (k : Option Nat) (pre : Option (List UInt8)) (dflt : Bool)
    (hp : ∀ p, pre = some p → ∀ b ∈ p, b.toNat < 128) :
    Gen.kspec_from_params D (k.map (fun (n : Nat) => (n : Int))) (pre.map textOf) dflt
      = (explicitSpec k pre).elim (.raised .Other)
          (fun r => .ok (r.elim (if dflt then some D else none) (fun s => some (toPyKS s)))) := by
  unfold Gen.kspec_from_params Gen.kspec_from_params.run
  cases k with
  | none => cases pre <;> rfl
  | some k =>
    cases pre with
    | none => rfl
    | some p =>
      have hp' := hp p rfl
      have hA := isAscii_upper_text p hp'
      have hE := encode_upper_text p hp'
      have hup : p.map (fun b => if 97 ≤ b ∧ b ≤ 122 then b - 32 else b) = upper p := rfl
      have hall : ((upper p).all fun b => b == 65 || b == 67 || b == 71 || b == 84) = Py.validDna (upper p) := rfl
      -- the monad operations are unfolded by name: this body leaves early in most branches, where the `py_eval` set is slow to check
      by_cases hk : k < 5
      · have hk' : ((k : Int) < 5) := Int.ofNat_lt.2 hk
        simp only [Option.map_some, Option.isNone_some, Bool.and_self, Bool.or_self, Bool.false_eq_true, if_false, bind, Except.bind,
          pure, Except.pure, Option.getD_some, decide_eq_true hk', if_true, throw, throwThe, MonadExceptOf.throw, Py.finish_exc,
          explicitSpec, hk, Option.elim_none]
      · have h5 : ¬ ((k : Int) < 5) := fun h => hk (Int.ofNat_lt.1 h)
        have h1 : ¬ ((k : Int) < 1) := by omega
        by_cases hl : p.length < 2
        · have hl' : (((textOf p).length : Int) < 2) := by rw [textOf_length]; exact Int.ofNat_lt.2 hl
          simp only [Option.map_some, Option.isNone_some, Bool.and_self, Bool.or_self, Bool.false_eq_true, if_false, bind, Except.bind,
            pure, Except.pure, Option.getD_some, decide_eq_false h5, decide_eq_true hl', if_true, throw, throwThe, MonadExceptOf.throw,
            Py.finish_exc, explicitSpec, hk, hl, Option.elim_none]
        · have hl' : ¬ (((textOf p).length : Int) < 2) := by rw [textOf_length]; exact fun h => hl (Int.ofNat_lt.1 h)
          rw [textOf_eq] at hl'
          simp only [Option.map_some, Option.isNone_some, Bool.and_self, Bool.or_self, Bool.false_eq_true, if_false, bind, Except.bind,
            pure, Except.pure, Option.getD_some, decide_eq_false h5, decide_eq_false hl', throw, throwThe, MonadExceptOf.throw,
            explicitSpec, hk, hl, textOf_eq, hA, hE, Bool.not_true, Py.guard_false, hup, hall]
          cases hv : Py.validDna (upper p) with
          | true =>
            simp only [Bool.not_true, Py.guard_false, Py.tryExcept, Py.finish_ret, if_true, toPyKS, Option.getD_some,
              decide_eq_false h1, upper_idem, hv, Option.elim_some]
          | false =>
            simp only [Bool.not_false, Py.guard_true, Py.tryExcept, Py.Exc.catches, beq_self_eq_true, Bool.true_or, if_true,
              Py.finish_exc, Bool.false_eq_true, if_false, Option.elim_none]

/-- `kspec_from_params(k, prefix)` without the default -/
theorem kspec_from_params_eq (D : Py.KSpec) (k : Option Nat) (pre : Option (List UInt8)) (hp : ∀ p, pre = some p → ∀ b ∈ p, b.toNat < 128) :
    Gen.kspec_from_params D (k.map (fun (n : Nat) => (n : Int))) (pre.map textOf) false
      = (match explicitSpec k pre with
         | none => .raised .Other
         | some r => .ok (r.map toPyKS)) := by
  rw [kspec_from_params_total D k pre false hp]
  rcases explicitSpec k pre with _ | _ | _ <;> rfl

/-- `kspec_from_params(k, prefix, default=True)` with nothing given: the default parameters -/
theorem kspec_from_params_default (D : Py.KSpec) : Gen.kspec_from_params D none none true = .ok (some D) :=
  kspec_from_params_total D none none true nofun

theorem decide_toPyKS_ne (a b : KSpec) : decide (toPyKS a ≠ toPyKS b) = decide (a ≠ b) := by
  simp only [toPyKS_ne_iff]

/-- the fragment of `gambit dist` that reconciles the parameters = the model's `distDecision` -/
theorem dist_params_eq (D : KSpec) (k : Option Nat) (pre : Option (List UInt8)) (hp : ∀ p, pre = some p → ∀ b ∈ p, b.toNat < 128)
    (q r : Option KSpec) :
    Gen.dist_params (toPyKS D) (k.map (fun (n : Nat) => (n : Int))) (pre.map textOf) (q.map toPyKS) (r.map toPyKS)
      = (match explicitSpec k pre with
         | none => .raised .Other
         | some e => decisionRes (distDecision e q r D)) := by
  unfold Gen.dist_params Gen.dist_params.run
  simp only [kspec_from_params_eq (toPyKS D) k pre hp]
  cases explicitSpec k pre with
  | none => rfl
  | some e =>
    unfold distDecision
    cases e with
    | none =>
      cases q with
      | none =>
        cases r with
        | none => rfl
        | some r => rfl
      | some q =>
        cases r with
        | none => rfl
        | some r =>
          simp only [Option.map_none, Option.map_some, Py.call_ok, bind, Except.bind, pure, Except.pure, Option.isNone_none,
            if_true, Option.isSome_some, Bool.and_self, Bool.true_and, Option.getD_some, decide_toPyKS_ne]
          by_cases h : q = r <;> simp [h, throw, throwThe, MonadExceptOf.throw, decisionRes]
    | some e =>
      cases q with
      | none =>
        cases r with
        | none => rfl
        | some r =>
          simp only [Option.map_none, Option.map_some, Py.call_ok, bind, Except.bind, pure, Except.pure, Option.isNone_some,
            Option.isSome_none, Bool.false_and, Bool.false_eq_true, if_false,
            Option.isSome_some, Bool.true_and, Option.getD_some, decide_toPyKS_ne]
          by_cases h : r = e <;> simp [h, throw, throwThe, MonadExceptOf.throw, decisionRes]
      | some q =>
        simp only [Option.map_some, Py.call_ok, bind, Except.bind, pure, Except.pure, Option.isNone_some,
            Bool.false_eq_true, if_false, Option.isSome_some, Bool.true_and, Option.getD_some, decide_toPyKS_ne]
        by_cases h : q = e
        · subst h
          cases r with
          | none => simp [throw, throwThe, MonadExceptOf.throw, decisionRes]
          | some r =>
            by_cases h' : r = q <;> simp [h', throw, throwThe, MonadExceptOf.throw, decisionRes, toPyKS_ne_iff]
        · simp [h, throw, throwThe, MonadExceptOf.throw, decisionRes]

/-- the fragment of `gambit signatures create` = the model's `createDecision` -/
theorem create_params_eq (D : KSpec) (db : Option KSpec) (k : Option Nat) (pre : Option (List UInt8))
    (hp : ∀ p, pre = some p → ∀ b ∈ p, b.toNat < 128) (dbParams : Bool) :
    Gen.create_params (toPyKS D) (db.map toPyKS) (k.map (fun (n : Nat) => (n : Int))) (pre.map textOf) dbParams
      = (match explicitSpec k pre with
         | none => .raised .Other
         | some e => decisionRes (createDecision e dbParams db D)) := by
  unfold Gen.create_params Gen.create_params.run
  simp only [kspec_from_params_eq (toPyKS D) k pre hp]
  cases explicitSpec k pre with
  | none => rfl
  | some e =>
    cases e <;> cases dbParams <;> cases db <;> rfl

/-- PROPERTY (C14) of the translated `dist` fragment: whenever it lets the command proceed, the parameters it settles on are those of every
signature source present and of the explicit options if given — two sources with different parameters are never compared -/
theorem py_dist_never_silent (D : KSpec) (k : Option Nat) (pre : Option (List UInt8)) (hp : ∀ p, pre = some p → ∀ b ∈ p, b.toNat < 128)
    (q r : Option KSpec) (u : Option Py.KSpec)
    (h : Gen.dist_params (toPyKS D) (k.map (fun (n : Nat) => (n : Int))) (pre.map textOf) (q.map toPyKS) (r.map toPyKS) = .ok u) :
    ∃ used : KSpec, u = some (toPyKS used) ∧ (∀ x, q = some x → x = used) ∧ (∀ x, r = some x → x = used)
      ∧ (∀ e, explicitSpec k pre = some (some e) → e = used) := by
  rw [dist_params_eq D k pre hp q r] at h
  cases he : explicitSpec k pre with
  | none => rw [he] at h; cases h
  | some e =>
    rw [he] at h
    replace h : decisionRes (distDecision e q r D) = .ok u := h
    cases hd : distDecision e q r D with
    | error => rw [hd] at h; cases h
    | run used =>
      rw [hd] at h
      simp only [decisionRes, Py.Res.ok.injEq] at h
      obtain ⟨hq, hr, hx⟩ := C14.run_implies_same_params e q r D used hd
      refine ⟨used, h.symm, hq, hr, ?_⟩
      intro e' he'
      exact hx e' (Option.some.inj he')

/-! ### Non-vacuity -/

/-- explicit `-k 11 -p atgac` against a query source computed with other parameters: refused -/
example : Gen.dist_params (toPyKS ⟨11, [65, 84, 71, 65, 67]⟩) (some 11) (some (textOf [97, 116, 103, 97, 99]))
    (some (toPyKS ⟨11, [65, 84]⟩)) none = .raised .Other := by decide

/-- two sources with equal parameters and no explicit options: those parameters (not the defaults) -/
example : Gen.dist_params (toPyKS ⟨11, [65, 84, 71, 65, 67]⟩) none none
    (some (toPyKS ⟨7, [65, 84]⟩)) (some (toPyKS ⟨7, [65, 84]⟩)) = .ok (some (toPyKS ⟨7, [65, 84]⟩)) := by decide

/-- `--db-params` together with explicit (valid) options: refused -/
example : Gen.create_params (toPyKS ⟨11, [65, 84, 71, 65, 67]⟩) (some (toPyKS ⟨7, [65, 84]⟩)) (some 11)
    (some (textOf [97, 116, 103, 97, 99])) true = .raised .Other := by decide

/-- … while the same explicit options alone are accepted (upper-cased) -/
example : Gen.create_params (toPyKS ⟨11, [65, 84, 71, 65, 67]⟩) (some (toPyKS ⟨7, [65, 84]⟩)) (some 11)
    (some (textOf [97, 116, 103, 97, 99])) false = .ok (some (toPyKS ⟨11, [65, 84, 71, 65, 67]⟩)) := by decide

end GambitV.Tie.Py
