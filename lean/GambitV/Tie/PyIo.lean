import GambitV.Gen.PyIo
import GambitV.Model.Fasta

/-!
Tie of the machine-translated `gambit.util.io.guess_compression` (`GambitV.Gen.guess_compression`; the stream is the environment `DATA`, the bytes
of the file from its beginning, `fobj.read(2)` its first two bytes) to the model `guessGzip` that the FASTA model and `C06.guess_iff` use.
-/
namespace GambitV.Tie.Py
open GambitV

theorem take2_eq_iff (data : List UInt8) : (data.take 2 == [31, 139]) = guessGzip data := by
  rcases data with _ | ⟨a, _ | ⟨b, rest⟩⟩ <;> simp [guessGzip]

/-- `guess_compression` as the source has it now: `'gzip'` iff the content starts with `1f 8b`, else `'none'`; it never raises and the file's
name plays no role (it is not an input) -/
theorem guess_compression_eq (data : List UInt8) :
    Gen.guess_compression data () = .ok (if guessGzip data then "gzip".toList else "none".toList) := by
  unfold Gen.guess_compression Gen.guess_compression.run
  simp only [take2_eq_iff]
  cases guessGzip data <;> rfl

example : Gen.guess_compression [31, 139, 8, 0] () = .ok "gzip".toList := rfl
example : Gen.guess_compression [62, 115] () = .ok "none".toList := rfl
example : Gen.guess_compression [31] () = .ok "none".toList := rfl

end GambitV.Tie.Py
