import GambitV.Tie.PyBulkDefs
import GambitV.Tie.PyMetric
import GambitV.Tie.PyBulk
import GambitV.Lemmas.TiePyPairwise

/-!
Tie of the machine-translated `jaccarddist_pairwise` (`GambitV.Gen.jaccarddist_pairwise`, from gambit/metric.py) with
`indices = None`, `out = None` to the hand-written models `pairwiseFlat` (`flat=True`) and `pairwiseSquare` (`flat=False`),
given the behaviour of the translated `jaccarddist_array` on a caller-supplied one-dimensional buffer (`ArrSpec`).

Invariants of the `for i in range(n - 1)` loop.  Flat case: after `i` iterations the first cells of the buffer hold the rows
`0..i-1` of the condensed output and `next_out` is their number.  Square case: one iteration on the buffer (`putRow`, then `putCol` of
the `rowView` of the row just written) is one step `sqStep` of the model loop `pairwiseSquareLoop`, so the buffer satisfies that loop's
own invariant `SqInv`, which at the end identifies it with `pairwiseSquare`.  A plain sequence (`kind = 0`) is first wrapped
(`kind := 1`).
-/
namespace GambitV.Tie.Py
open GambitV GambitV.Py GambitV.TiePair

theorem pairwise_kind0 (c : Py.Sigs) (hk : c.kind = 0) (ind : Option (List Int)) (flat : Bool) (out : Option Py.ND) :
    Gen.jaccarddist_pairwise c ind flat out () = Gen.jaccarddist_pairwise { c with kind := 1 } ind flat out () := by
  obtain ⟨k, d, its⟩ := c
  subst hk
  rfl

/-- The call made by iteration `i`, `jaccarddist_array(sigs[i], sigs[i+1:], out=view)`: the view ends up holding row `i` of the condensed
output, whichever buffer it is a view of. -/
theorem pairwise_row_call (harr : ArrSpec) (c : Py.Sigs) (hc : c.dtype.kernelOk = true) (i : Nat) (hi : i < c.items.length)
    (o : Py.ND) (vals : List UInt32) (hd : o.okDtype = true) (hsh : o.shape = [c.items.length - (i + 1)])
    (hr : o.rows = [vals]) (hl : vals.length = c.items.length - (i + 1)) :
    Gen.jaccarddist_array { dtype := c.dtype, vals := c.items[i] } { kind := c.kind, dtype := c.dtype, items := c.items.drop (i + 1) } (some o)
      = .ok { o with rows := [flatRow kdist (Py.Sigs.nat c) i] } := by
  rw [harr { dtype := c.dtype, vals := c.items[i] } { kind := c.kind, dtype := c.dtype, items := c.items.drop (i + 1) } o vals hc hc hd
      (by rw [hsh, List.length_drop]) hr (by rw [hl, List.length_drop]),
    flatRow_of_getElem? kdist _ i (c.items[i].map Int.toNat)
      (by unfold Py.Sigs.nat; rw [List.getElem?_map, List.getElem?_eq_getElem hi]; rfl)]
  unfold Py.Sigs.nat Arr.natVals
  rw [List.map_drop]

/-! ### `flat=True` -/

/-- the condensed output after `i` rows -/
def flatPre (c : Py.Sigs) (i : Nat) : List UInt32 := (List.range i).flatMap (flatRow kdist (Py.Sigs.nat c))

/-- loop invariant of the flat case -/
def FlatInv (c : Py.Sigs) (i : Nat) (s : Gen.jaccarddist_pairwise.St) : Prop :=
  s.sigs = c ∧ s.indices = none ∧ s.flat = true ∧ s.n = (c.items.length : Int) ∧
  ∃ vals, s.out = some { okDtype := true, shape := [c.items.length * (c.items.length - 1) / 2], rows := [vals] }
    ∧ vals.length = c.items.length * (c.items.length - 1) / 2
    ∧ s.next_out = ((flatPre c i).length : Int) ∧ vals.take (flatPre c i).length = flatPre c i

theorem flatPre_le (c : Py.Sigs) (i : Nat) (hi : i ≤ c.items.length - 1) :
    (flatPre c i).length ≤ c.items.length * (c.items.length - 1) / 2 := by
  have h1 := flatMap_range_length_le (flatRow kdist (Py.Sigs.nat c)) i (c.items.length - 1) hi
  have h2 := C05.pairwiseFlat_length kdist (Py.Sigs.nat c)
  rw [pairwiseFlat_eq, nat_length] at h2
  rw [h2] at h1
  exact h1

/-- the flat case for a wrapped collection (`1 ≤ kind`); the loop keeps `FlatInv` -/
theorem flat_main (harr : ArrSpec) (c : Py.Sigs) (hc : c.dtype.kernelOk = true) (hk : 1 ≤ c.kind) :
    ∃ r, Gen.jaccarddist_pairwise c none true none () = .ok r ∧ r.okDtype = true
      ∧ r.shape = [c.items.length * (c.items.length - 1) / 2] ∧ r.vals1 = pairwiseFlat kdist (Py.Sigs.nat c) := by
  unfold Gen.jaccarddist_pairwise Gen.jaccarddist_pairwise.run
  have hk' : decide (1 ≤ c.kind) = true := by simpa using hk
  simp only [py_eval, hk', Bool.not_true, Option.isSome_none, Option.isNone_none, num_pairs_eq, range_pred_toNat, ND.empty,
    Int.toNat_natCast]
  generalize hw : Py.forEach _ _ _ = w
  obtain ⟨s', rfl, hP⟩ := forEach_range_inv hw (FlatInv c)
    (by
      rintro i s hi ⟨h1, h2, h3, h4, vals, h5, h6, h7, h8⟩ r hr
      have hi1 : i < c.items.length := Nat.lt_of_lt_of_le hi (Nat.sub_le _ _)
      have e1 : (i : Int) + 1 = ((i + 1 : Nat) : Int) := rfl
      have e2 := next_out_add (flatPre c i).length c.items.length i hi1
      have hb1 : (flatPre c i).length + (c.items.length - (i + 1)) ≤ vals.length := by
        have := flatPre_le c (i + 1) hi
        rw [flatPre, flatMap_range_succ, List.length_append, flatRow_length, nat_length] at this
        rw [h6]; exact this
      have hsl : (slc vals (flatPre c i).length ((flatPre c i).length + (c.items.length - (i + 1)))).length
          = c.items.length - (i + 1) := by rw [length_slc, Nat.min_eq_left hb1, Nat.add_sub_cancel_left]
      subst hr
      simp only [py_eval, h1, h2, h3, h4, h5, h7, Option.isNone_none, Bool.true_and, Bool.not_true, Bool.false_and,
        getItem?_arrs c i hi1, e1, e2, sigs_slice_to_end c (i + 1), Option.isNone_some, Option.getD_some,
        view1_nat { okDtype := true, shape := [c.items.length * (c.items.length - 1) / 2], rows := [vals] } vals rfl, hsl]
      rw [pairwise_row_call harr c hc i hi1 _ _ rfl rfl rfl hsl]
      have hsucc : flatPre c (i + 1) = flatPre c i ++ flatRow kdist (Py.Sigs.nat c) i :=
        flatMap_range_succ _ _
      have hle : (flatPre c i).length + (flatRow kdist (Py.Sigs.nat c) i).length
          ≤ c.items.length * (c.items.length - 1) / 2 := by
        rw [flatRow_length, nat_length, ← h6]; exact hb1
      obtain ⟨hA, hB⟩ := writeSlice_prefix vals (flatPre c i) (flatRow kdist (Py.Sigs.nat c) i) _ h6 h8 hle
      simp only [call_ok, ND.vals1,
        put1_nat { okDtype := true, shape := [c.items.length * (c.items.length - 1) / 2], rows := [vals] } vals rfl _ _ _]
      refine ⟨_, rfl, rfl, rfl, rfl, rfl, _, rfl, hA, ?_, ?_⟩
      · show ((_ : Nat) : Int) = _
        rw [hsucc, List.length_append, flatRow_length, nat_length]
      · rw [hsucc]; exact hB)
    ⟨rfl, rfl, rfl, rfl, _, rfl, List.length_replicate, rfl, rfl⟩
  obtain ⟨h1, h2, h3, h4, vals, h5, h6, h7, h8⟩ := hP
  have hfin : flatPre c (c.items.length - 1) = pairwiseFlat kdist (Py.Sigs.nat c) := by
    rw [pairwiseFlat_eq, nat_length]; rfl
  rw [hfin, C05.pairwiseFlat_length, nat_length, ← h6, List.take_length] at h8
  simp only [py_eval, h5, Option.isNone_some, Option.getD_some]
  exact ⟨_, rfl, rfl, rfl, h8⟩

/-- `jaccarddist_pairwise(flat=True)` (no index selection, no caller buffer) = the condensed list of the model -/
theorem jaccarddist_pairwise_flat_eq (harr : ArrSpec) (c : Py.Sigs) (hc : c.dtype.kernelOk = true) :
    ∃ r, Gen.jaccarddist_pairwise c none true none () = .ok r ∧ r.okDtype = true
      ∧ r.shape = [c.items.length * (c.items.length - 1) / 2] ∧ r.vals1 = pairwiseFlat kdist (Py.Sigs.nat c) := by
  by_cases hk : 1 ≤ c.kind
  · exact flat_main harr c hc hk
  · rw [pairwise_kind0 c (by omega)]
    exact flat_main harr { c with kind := 1 } hc (Nat.le_refl 1)

/-! ### `flat=False` -/

/-- loop invariant of the square case: the buffer satisfies the invariant of the model loop `pairwiseSquareLoop` -/
def SquareInv (c : Py.Sigs) (i : Nat) (s : Gen.jaccarddist_pairwise.St) : Prop :=
  s.sigs = c ∧ s.indices = none ∧ s.flat = false ∧ s.n = (c.items.length : Int) ∧
  ∃ M, s.out = some { okDtype := true, shape := [c.items.length, c.items.length], rows := M }
    ∧ SqInv kdist 0 (Py.Sigs.nat c) i M

/-- the square case for a wrapped collection (`1 ≤ kind`); the loop keeps `SquareInv`, one iteration being `TiePair.square_iter` -/
theorem square_main (harr : ArrSpec) (c : Py.Sigs) (hc : c.dtype.kernelOk = true) (hk : 1 ≤ c.kind) :
    ∃ r, Gen.jaccarddist_pairwise c none false none () = .ok r ∧ r.okDtype = true
      ∧ r.rows = pairwiseSquare kdist 0 (Py.Sigs.nat c) := by
  unfold Gen.jaccarddist_pairwise Gen.jaccarddist_pairwise.run
  have hk' : decide (1 ≤ c.kind) = true := by simpa using hk
  simp only [py_eval, hk', Bool.not_true, Option.isSome_none, Option.isNone_none, num_pairs_eq, range_pred_toNat, ND.empty,
    Int.toNat_natCast, Option.getD_some, ND.fillDiagonal]
  generalize hw : Py.forEach _ _ _ = w
  obtain ⟨s', rfl, hP⟩ := forEach_range_inv hw (SquareInv c)
    (by
      rintro i s hi ⟨h1, h2, h3, h4, M, h5, hM⟩ r hr
      have hi1 : i < c.items.length := Nat.lt_of_lt_of_le hi (Nat.sub_le _ _)
      have hi2 : i + 1 ≤ c.items.length := hi1
      have e1 : (i : Int) + 1 = ((i + 1 : Nat) : Int) := rfl
      have hn := nat_length c
      obtain ⟨rk, hMk, hrk, -⟩ := (hM i).2 (by rw [hn]; exact hi1)
      rw [hn] at hrk
      have hlen : M.length = c.items.length := by rw [sqInv_length _ _ _ _ _ hM, hn]
      have hsl : (slc rk (i + 1) c.items.length).length = c.items.length - (i + 1) := by rw [length_slc, hrk, Nat.min_self]
      subst hr
      simp only [py_eval, h1, h2, h3, h4, h5, Option.isNone_none, Bool.true_and, Bool.not_true, Bool.false_and, getItem?_arrs c i hi1,
        e1, sigs_slice_to_end c (i + 1), Option.isNone_some, Option.getD_some, Bool.not_false, getItem?_nat, hMk,
        rowView_nat true _ M i (i + 1) c.items.length rk hMk, hsl]
      rw [pairwise_row_call harr c hc i hi1 _ _ rfl rfl rfl hsl]
      obtain ⟨hA, hB⟩ := square_iter true [c.items.length, c.items.length] M c.items.length i rk
        (flatRow kdist (Py.Sigs.nat c) i)
        { okDtype := true, shape := [c.items.length - (i + 1)], rows := [flatRow kdist (Py.Sigs.nat c) i] }
        hi2 hlen hMk hrk (by rw [flatRow_length, hn]; rfl) rfl
      simp only [py_eval, hA, hB, set_getElem?_of_some M i i rk _ hMk, Option.isNone_some]
      refine ⟨_, rfl, rfl, rfl, rfl, rfl, _, rfl, ?_⟩
      have hstep := sqInv_step kdist 0 (Py.Sigs.nat c) i M (by rw [hn]; exact hi) hM
      rw [sqStep_of_lt kdist _ M i (by rw [hn]; exact hi1), hn] at hstep
      exact hstep)
    ⟨rfl, rfl, rfl, rfl, _, rfl, by
      rw [zipIdx_set_diag, List.length_replicate]
      have := sqInv_init kdist 0 (Py.Sigs.nat c) (List.replicate c.items.length (List.replicate c.items.length 0))
        (by rw [List.length_replicate, nat_length])
        (by intro row hr; rw [List.eq_of_mem_replicate hr, List.length_replicate, nat_length])
      rw [nat_length] at this
      exact this⟩
  obtain ⟨h1, h2, h3, h4, M, h5, hM⟩ := hP
  rw [← nat_length c] at hM
  have hfin := sqInv_final kdist 0 (Py.Sigs.nat c) M hM
  simp only [py_eval, h5, Option.isNone_some, Option.getD_some]
  exact ⟨_, rfl, rfl, hfin⟩

/-- `jaccarddist_pairwise(flat=False)` = the model's square matrix (zero diagonal, symmetric) -/
theorem jaccarddist_pairwise_square_eq (harr : ArrSpec) (c : Py.Sigs) (hc : c.dtype.kernelOk = true) :
    ∃ r, Gen.jaccarddist_pairwise c none false none () = .ok r ∧ r.okDtype = true
      ∧ r.rows = pairwiseSquare kdist 0 (Py.Sigs.nat c) := by
  by_cases hk : 1 ≤ c.kind
  · exact square_main harr c hc hk
  · rw [pairwise_kind0 c (by omega)]
    exact square_main harr { c with kind := 1 } hc (Nat.le_refl 1)

/-! ### non-vacuity: the generated function against the two models on concrete collections (kinds 0, 1, 2; an empty signature;
no and one signature).  `jaccardBits` is defined by well-founded recursion, so the examples go through the kernel evaluator, as in
`Tie/PyMetric.lean`. -/

example : (match Gen.jaccarddist_pairwise ⟨1, ⟨'u', 8, true⟩, [[1, 2, 3], [2, 3, 4], [], [1, 5, 9, 11], [3, 4, 5]]⟩ none true none () with
    | .ok r => r.okDtype && r.shape == [10]
        && r.vals1 == pairwiseFlat kdist [[1, 2, 3], [2, 3, 4], [], [1, 5, 9, 11], [3, 4, 5]]
    | _ => false) = true := by decide +kernel
example : (match Gen.jaccarddist_pairwise ⟨2, ⟨'u', 4, true⟩, [[1, 2, 3], [2, 3, 4], [], [1, 5, 9, 11]]⟩ none false none () with
    | .ok r => r.okDtype && r.rows == pairwiseSquare kdist 0 [[1, 2, 3], [2, 3, 4], [], [1, 5, 9, 11]]
    | _ => false) = true := by decide +kernel
example : (match Gen.jaccarddist_pairwise ⟨0, ⟨'u', 2, true⟩, [[1, 2], [2]]⟩ none false none () with
    | .ok r => r.okDtype && r.rows == pairwiseSquare kdist 0 [[1, 2], [2]]
    | _ => false) = true := by decide +kernel
example : Gen.jaccarddist_pairwise ⟨1, ⟨'u', 8, true⟩, []⟩ none true none () = .ok ⟨true, [0], [[]]⟩ := by decide +kernel
example : Gen.jaccarddist_pairwise ⟨1, ⟨'u', 8, true⟩, [[7]]⟩ none false none () = .ok ⟨true, [1, 1], [[0]]⟩ := by decide +kernel

/-! ### Unconditional forms (with `jaccarddist_array_spec`, `Tie/PyBulk.lean`) -/

/-- `jaccarddist_pairwise(sigs, flat=True)` as the source has it now = the condensed model output. -/
theorem py_pairwise_flat (c : Py.Sigs) (hc : c.dtype.kernelOk = true) :
    ∃ r, Gen.jaccarddist_pairwise c none true none () = .ok r ∧ r.okDtype = true
      ∧ r.shape = [c.items.length * (c.items.length - 1) / 2] ∧ r.vals1 = pairwiseFlat kdist (Py.Sigs.nat c) :=
  jaccarddist_pairwise_flat_eq jaccarddist_array_spec c hc

/-- `jaccarddist_pairwise(sigs, flat=False)` as the source has it now = the square model output (zero diagonal, symmetric). -/
theorem py_pairwise_square (c : Py.Sigs) (hc : c.dtype.kernelOk = true) :
    ∃ r, Gen.jaccarddist_pairwise c none false none () = .ok r ∧ r.okDtype = true
      ∧ r.rows = pairwiseSquare kdist 0 (Py.Sigs.nat c) :=
  jaccarddist_pairwise_square_eq jaccarddist_array_spec c hc

end GambitV.Tie.Py
