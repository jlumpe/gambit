import GambitV.Gen.Metric
import GambitV.Lemmas.UnionCount

/-!
Tie: the generated (state-passing) translation of `c_jaccarddist` (metric.pyx) equals the
hand-written model `jaccardBits`.  The numbers in front of the docstrings are those of the statement list `notes/Tie_statements.md`.
-/
namespace GambitV.Tie.Metric
open GambitV GambitV.Gen

/-- The loop state at indices `i`, `j` with count `u`; the locals `a`, `b` hold whatever was read last. -/
def st (a b : List Nat) (i j u x y : Nat) : c_jaccarddist.St :=
  { coords1 := a, coords2 := b, N := a.length, M := b.length, i := i, j := j, a := x, b := y, u := u }

/-- The count so far plus the merge count of what is still to be read is the merge count of the whole. -/
def Inv (a b : List Nat) (s : c_jaccarddist.St) : Prop :=
  ∃ i j u x y : Nat, s = st a b i j u x y ∧ i ≤ a.length ∧ j ≤ b.length ∧
    u + unionCount (a.drop i) (b.drop j) = unionCount a b

private theorem toNat_sub_succ_lt {n i : Nat} (h : i < n) : ((n : Int) - ((i : Int) + 1)).toNat < ((n : Int) - i).toNat := by
  omega

/-- 6. The generated kernel returns exactly the model's bit pattern, and never runs out of fuel. -/
theorem c_jaccarddist_eq (a b : List Nat) : Gen.c_jaccarddist a b = { ret := jaccardBits a b } := by
  unfold Gen.c_jaccarddist c_jaccarddist.run
  simp only [bind, Except.bind, pure, Except.pure]
  generalize hw : whileFuelE _ _ _ _ = w
  have hmain := whileFuelE_inv hw (Inv a b) (fun s => (s.N - s.i).toNat + (s.M - s.j).toNat)
    ?step ?init ?fuel
  case init => exact ⟨0, 0, 0, 0, 0, rfl, Nat.zero_le _, Nat.zero_le _, by simp⟩
  case fuel => simp only; omega
  case step =>
    clear hw
    rintro _ ⟨i, j, u, x, y, rfl, hiN, hjM, hinv⟩ hc
    -- `decide_eq_true_eq` has to fire before `st` is unfolded: the `Decidable` instances keep mentioning `st`
    simp only [Bool.and_eq_true, decide_eq_true_eq] at hc
    simp only [decide_eq_true_eq]
    simp only [st, Int.toNat_natCast] at hc ⊢
    have hi : i < a.length := Int.ofNat_lt.mp hc.1
    have hj : j < b.length := Int.ofNat_lt.mp hc.2
    rw [unionCount_drop_step a b i j hi hj] at hinv
    by_cases hab : a.getD i 0 ≤ b.getD j 0 <;> by_cases hba : b.getD j 0 ≤ a.getD i 0 <;>
      simp only [hab, hba, if_pos, if_neg, not_false_eq_true] at hinv ⊢
    · exact ⟨_, rfl, ⟨i + 1, j + 1, u + 1, _, _, rfl, hi, hj, (Nat.succ_add_eq_add_succ u _).trans hinv⟩,
        Nat.add_lt_add (toNat_sub_succ_lt hi) (toNat_sub_succ_lt hj)⟩
    · exact ⟨_, rfl, ⟨i + 1, j, u + 1, _, _, rfl, hi, hjM, (Nat.succ_add_eq_add_succ u _).trans hinv⟩,
        Nat.add_lt_add_right (toNat_sub_succ_lt hi) _⟩
    · exact ⟨_, rfl, ⟨i, j + 1, u + 1, _, _, rfl, hiN, hj, (Nat.succ_add_eq_add_succ u _).trans hinv⟩,
        Nat.add_lt_add_left (toNat_sub_succ_lt hj) _⟩
    · omega
  clear hw
  obtain ⟨_, rfl, ⟨i, j, u, x, y, rfl, hiN, hjM, hinv⟩, hc⟩ := hmain
  simp only [Bool.and_eq_false_iff, decide_eq_false_iff_not] at hc
  simp only [st] at hc ⊢
  rw [unionCount_drop_of_done a b (by omega)] at hinv
  have hfin : (u : Int) + ((a.length : Int) - i) + ((b.length : Int) - j) = (unionCount a b : Int) := by
    rw [← hinv, Int.natCast_add, Int.natCast_add, Int.ofNat_sub hiN, Int.ofNat_sub hjM, Int.add_assoc]
  simp only [hfin, throw, throwThe, MonadExceptOf.throw, c_jaccarddist.retWith,
    c_jaccarddist.retOf, jaccardBits, decide_eq_true_eq, Int.natCast_eq_zero]
  by_cases h0 : unionCount a b = 0
  · simp only [h0, if_pos]; rfl
  · simp only [h0, if_false]

/-- Corollary: the fuel `N + M + 1` emitted by the translator always suffices. -/
theorem c_jaccarddist_fuel (a b : List Nat) : (Gen.c_jaccarddist a b).fuelOut = false := by
  rw [c_jaccarddist_eq]

/-- 7. Structural facts read off the parsed wrappers and the `prange` loop. -/
theorem structural_facts :
    Gen.prangeWritesOnlyOwnCell = true ∧ Gen.jaccardIsOneMinusDist = true ∧
    Gen.jaccarddistIsKernel = true ∧ Gen.prangeBodyIsSliceDist = true := by
  decide

/-! 8. Non-vacuity: the generated kernel evaluated on concrete inputs
(`{1,2,3}` vs `{2,3,4}`: union 4, symmetric difference 2, distance 0.5 = 0x3F000000). -/
example : Gen.c_jaccarddist [1, 2, 3] [2, 3, 4] = { ret := 0x3F000000 } := by decide
example : Gen.c_jaccarddist [] [] = { ret := 0 } := by decide
example : Gen.c_jaccarddist [1, 2, 3] [1, 2, 3] = { ret := 0 } := by decide
example : Gen.c_jaccarddist [1] [2] = { ret := F32.oneBits } := by decide

end GambitV.Tie.Metric
