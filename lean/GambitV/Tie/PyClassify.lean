import GambitV.Gen.PyClassify
import GambitV.Tie.PyMatching
import GambitV.Tie.PyFindMatches
import GambitV.Tie.PyConsensus
import GambitV.Lemmas.PyRt
import GambitV.Lemmas.ListAux
import GambitV.Lemmas.TiePyClassifyTop

/-!
Tie of the machine-translated `classify` (`GambitV.Gen.classify`, from gambit/classify.py) to the hand-written
models `classifyDefault` and `classifyStrict` (`Model/Taxonomy.lean`).

The three calls to translated functions are rewritten with their ties (`matching_taxon_eq`, `find_matches_eq`,
`consensus_taxon_eq`).  In strict mode the two nested `for` loops that pick the primary match are simulated as they
are generated (`Py.forEach_sim` on the generated bodies): they compute a nested left fold on
`(best_i, best_d, best_taxon)`, and `TieTop.primary_spec` relates that fold to the model's fold over the flattened
candidate list (`Lemmas/TiePyClassifyTop.lean`).
-/
namespace GambitV.Tie.Py
open GambitV GambitV.Py GambitV.TieTop

/-- the `GenomeMatch` the code builds for reference genome `i` -/
def gmOf (F : Forest) (gtax ds : List Nat) (i : Nat) : Py.GenomeMatch :=
  { genome := i, distance := ds.getD i 0, matched_taxon := matchingTaxon F (gtax.getD i 0) (ds.getD i 0) }

/-- the model's result in the shape of `ClassifierResult` (messages identified by their first literal piece) -/
def resOf (F : Forest) (gtax ds : List Nat) (m : ClassifyResult) : Py.ClassifierResult :=
  { success := m.success, predicted_taxon := m.predicted,
    primary_match := m.primary.map (gmOf F gtax ds), closest_match := gmOf F gtax ds m.closest,
    warnings := (if m.warnInconsistent.isEmpty then [] else ["Query matched "])
      ++ (if m.warnNotClosest then ["Primary genome match is not closest match."] else []),
    error := if m.failed then some "Matched taxa have no common ancestor." else none }

/-- `np.argmin` of an empty array: `ValueError`, in either mode -/
theorem classify_empty (F : Forest) (gtax : List Nat) (b : Bool) :
    Gen.classify F gtax [] [] b = .raised .ValueError := rfl

/-- Default mode: the translated `classify` returns (no exception) the result of `classifyDefault`. -/
theorem classify_default_eq (F : Forest) (gtax ds : List Nat) (h : ds.length = gtax.length) (hne : ds ≠ []) :
    Gen.classify F gtax (List.range gtax.length) ds false = .ok (resOf F gtax ds (classifyDefault F gtax ds)) := by
  have hc := (argminFirst_getD_spec ds hne).1
  have hc' : argminFirst ds < gtax.length := h ▸ hc
  have he : ds.isEmpty = false := List.isEmpty_eq_false_iff.2 hne
  unfold Gen.classify Gen.classify.run
  simp only [he, guard_false, getItem?_range hc', getItem?_getD ds hc, Option.isNone_some, Option.getD_some,
    matching_taxon_eq, call_ok, bind, Except.bind, pure, Except.pure, Bool.not_false, if_true,
    throw, throwThe, MonadExceptOf.throw, finish_ret]
  unfold resOf classifyDefault gmOf
  dsimp only
  cases hm : matchingTaxon F (gtax.getD (argminFirst ds) 0) (ds.getD (argminFirst ds) 0)
  · rfl
  · simp only [Option.isSome_some, if_true, Option.map_some, hm]
    rfl

/-- Strict mode, on a well-formed forest with the genome taxa in it: the translated `classify` returns (no
exception, no fuel-out) the result of `classifyStrict`. -/
theorem classify_strict_eq (F : Forest) (hF : ForestWF F) (gtax ds : List Nat) (h : ds.length = gtax.length)
    (hne : ds ≠ []) (hT : ∀ t ∈ gtax, t < F.size) :
    Gen.classify F gtax (List.range gtax.length) ds true = .ok (resOf F gtax ds (classifyStrict F gtax ds)) := by
  have hc := (argminFirst_getD_spec ds hne).1
  have hc' : argminFirst ds < gtax.length := h ▸ hc
  have he : ds.isEmpty = false := List.isEmpty_eq_false_iff.2 hne
  have hlen : decide ((List.range gtax.length).length ≠ ds.length) = false := by simp [h]
  have hpos : 0 < F.size := Nat.zero_lt_of_lt (hT _ (List.getElem_mem hc'))
  obtain ⟨cn, os, hcons, hc1, hc2⟩ := consensus_taxon_eq F hF _ (findMatches_key_lt F hF gtax ds hT)
    (findMatches_keys_nodup F gtax ds)
  -- run the generated term up to `if not matches:`
  unfold Gen.classify Gen.classify.run
  simp only [he, guard_false, getItem?_range hc', getItem?_getD ds hc, Option.isNone_some, Option.getD_some,
    matching_taxon_eq, call_ok, bind, Except.bind, pure, Except.pure, Bool.not_true, Bool.false_eq_true, if_false,
    hlen, find_matches_eq F gtax ds h, map_castE_fst, hcons, List.isEmpty_map]
  by_cases hE : (findMatches F gtax ds).isEmpty = true
  · simp only [hE, Bool.not_true, Bool.not_false, if_true, throw, throwThe, MonadExceptOf.throw, finish_ret]
    rw [classifyStrict_empty F gtax ds hE]
    rfl
  have hE' : (findMatches F gtax ds).isEmpty = false := by simpa using hE
  -- the model side is rewritten in the same pass: a `rw` on a goal that holds the whole generated function is slow to check
  simp only [hE', Bool.not_true, Bool.not_false, Bool.false_eq_true, if_false, classifyStrict_nonempty F gtax ds hE',
    hc1, hc2]
  cases cn with
  | none =>
    -- no common ancestor
    simp only [Option.isNone_none, if_true, Option.isSome_none, throw, throwThe, MonadExceptOf.throw,
      Option.map_none]
    unfold resOf
    simp only [filterMap_path_getLast? F hpos]
    cases os.isEmpty <;> rfl
  | some c =>
    simp only [Option.isNone_some, Bool.false_eq_true, if_false]
    obtain ⟨p, t, hfin, hp, hmt, hprim⟩ := primary_spec F hF gtax ds hT c hc1
    have hidx : ∀ e ∈ findMatches F gtax ds, ∀ i ∈ e.2, i < ds.length := fun e he i hi =>
      h ▸ (findMatches_idx F gtax ds he hi).1
    -- the outer loop: the fields read after it keep their values (`Known`), and `(best_i, best_d, best_taxon)`
    -- follows the nested fold `nestStep` (`R`); the items are cast back from Python ints
    generalize hw : forEach _ _ _ = w
    have houter : ∃ s', w = .ok (s', true) ∧
        Known (List.range gtax.length) ds c (gmOf F gtax ds (argminFirst ds)) os s' ∧
        R s' (some (p, ds.getD p 0, t)) := by
      have := forEach_sim hw
        (fun (s₁ : TieTop.St) a => Known (List.range gtax.length) ds c (gmOf F gtax ds (argminFirst ds)) os s₁ ∧ R s₁ a)
        (fun a (x : Nat × List Int) => nestStep F c ds a (x.1, x.2.map Int.toNat)) ?_ (b := none)
        ⟨⟨rfl, rfl, rfl, rfl, rfl⟩, rfl, rfl, rfl⟩
      · simpa only [List.foldl_map, toNat_natCast_map, hfin] using this
      -- one iteration of the outer loop is `nestStep`
      intro x hx s₁ a ⟨hk, hR⟩
      obtain ⟨e, he, rfl⟩ := List.mem_map.1 hx
      have hcons : s₁.consensus.getD 0 = c := by rw [hk.consensus]; rfl
      simp only [hcons, toNat_natCast_map, nestStep]
      by_cases hm : (F.lineage e.1).contains c = true
      · simp only [hm, Bool.not_true, Bool.false_eq_true, if_false, if_true]
        -- the inner loop: a fold of `pickT` under the taxon of this item
        generalize hwi : forEach _ _ _ = wi
        have hinner := forEach_sim hwi
          (fun (s₂ : TieTop.St) a₂ => Frame s₁ s₂ ∧ s₂.taxon = e.1 ∧ R s₂ a₂)
          (fun a₂ (i : Int) => pickT ds a₂ (i.toNat, e.1)) ?_ (b := a) ⟨⟨rfl, rfl, rfl, rfl, rfl⟩, rfl, hR⟩
        · obtain ⟨s₂, rfl, hf₂, -, hR₂⟩ := hinner
          rw [List.foldl_map] at hR₂
          exact ⟨s₂, .inl rfl, hk.frame hf₂, hR₂⟩
        -- one iteration of the inner loop is `pickT`
        intro i hi s₂ a₂ ⟨hf₂, ht₂, h1, h2, h3⟩
        obtain ⟨j, hj, rfl⟩ := List.mem_map.1 hi
        have hg : getItem? s₂.dists (j : Int) = some (ds.getD j 0) := by
          rw [hf₂.dists, hk.dists]
          exact getItem?_getD ds (hidx e he j hj)
        simp only [hg, Option.isNone_some, guard_false, Option.getD_some, Int.toNat_natCast, h2]
        rcases a₂ with _ | ⟨bi, bd, bt⟩
        · exact ⟨_, .inl rfl, hf₂.trans ⟨rfl, rfl, rfl, rfl, rfl⟩, ht₂, rfl, rfl, congrArg some ht₂⟩
        · simp only [Option.map_some, pickT]
          by_cases hlt : ds.getD j 0 < bd
          · simp only [hlt, decide_true, if_true]
            exact ⟨_, .inl rfl, hf₂.trans ⟨rfl, rfl, rfl, rfl, rfl⟩, ht₂, rfl, rfl, congrArg some ht₂⟩
          · simp only [hlt, decide_false, if_false, Bool.false_eq_true]
            exact ⟨_, .inl rfl, hf₂.trans ⟨rfl, rfl, rfl, rfl, rfl⟩, ht₂, h1, rfl, h3⟩
      · simp only [hm, Bool.not_false, if_true, if_false, Bool.false_eq_true, throw, throwThe, MonadExceptOf.throw]
        exact ⟨_, .inr rfl, hk.frame ⟨rfl, rfl, rfl, rfl, rfl⟩, hR⟩
    -- after the loops
    obtain ⟨s', rfl, hk, hR1, hR2, hR3⟩ := houter
    have hlast := path_getLast? F hpos c
    simp only [hR1, hR2, hR3, hk.ref_genomes, hk.consensus, hk.closest_match, hk.others, Option.map_some,
      Option.isSome_some, Bool.not_true, guard_false, Option.isNone_some, Option.getD_some, getItem?_range hp, throw,
      throwThe, MonadExceptOf.throw]
    have hgm : gmOf F gtax ds p = { genome := p, distance := ds.getD p 0, matched_taxon := some t } := by
      unfold gmOf
      rw [hmt]
    have hbne : (p != argminFirst ds) = decide (p ≠ argminFirst ds) := by
      by_cases hpc : p = argminFirst ds <;> simp [hpc]
    have hgen : (gmOf F gtax ds (argminFirst ds)).genome = argminFirst ds := rfl
    simp only [resOf, hprim, filterMap_path_getLast? F hpos, Option.map_some, Option.bind_some, hlast, hgm, hbne]
    cases os.isEmpty <;>
      simp only [Bool.not_true, Bool.not_false, if_true, Bool.false_eq_true, if_false, Option.isNone_some,
        Option.isSome_some, Bool.true_and, Option.getD_some, hgen] <;>
      cases decide (p ≠ argminFirst ds) <;> rfl

/-! non-vacuity: the generated function and the models evaluated on a concrete forest
(`demoForest`: `0 ← 1 ← 3`, `0 ← 2`, `4` isolated; thresholds 5, 3, 3, –, 2) -/

private theorem demoForest_wf : ForestWF demoForest := forestWF_of_check (by decide)

/-- strict mode, genomes of taxa 3 and 2 matched to the sibling taxa 1 and 2: consensus 0 with the
"inconsistent taxa" warning -/
example : Gen.classify demoForest [3, 2] (List.range 2) [1, 2] true =
    .ok { success := true, predicted_taxon := some 0,
          primary_match := some { genome := 0, distance := 1, matched_taxon := some 1 },
          closest_match := { genome := 0, distance := 1, matched_taxon := some 1 },
          warnings := ["Query matched "], error := none } := by decide +kernel

example : resOf demoForest [3, 2] [1, 2] (classifyStrict demoForest [3, 2] [1, 2]) =
    { success := true, predicted_taxon := some 0,
      primary_match := some { genome := 0, distance := 1, matched_taxon := some 1 },
      closest_match := { genome := 0, distance := 1, matched_taxon := some 1 },
      warnings := ["Query matched "], error := none } := by decide +kernel

/-- strict mode, matched taxa 1 and 4 lie in different trees: "no common ancestor" -/
example : Gen.classify demoForest [3, 4] (List.range 2) [1, 2] true =
    .ok { success := false, predicted_taxon := none, primary_match := none,
          closest_match := { genome := 0, distance := 1, matched_taxon := some 1 },
          warnings := ["Query matched "], error := some "Matched taxa have no common ancestor." } := by decide +kernel

example : resOf demoForest [3, 4] [1, 2] (classifyStrict demoForest [3, 4] [1, 2]) =
    { success := false, predicted_taxon := none, primary_match := none,
      closest_match := { genome := 0, distance := 1, matched_taxon := some 1 },
      warnings := ["Query matched "], error := some "Matched taxa have no common ancestor." } := by decide +kernel

/-- strict mode, the closest genome matches nothing: the primary match is another genome -/
example : Gen.classify demoForest [4, 3] (List.range 2) [3, 4] true =
    .ok { success := true, predicted_taxon := some 0,
          primary_match := some { genome := 1, distance := 4, matched_taxon := some 0 },
          closest_match := { genome := 0, distance := 3, matched_taxon := none },
          warnings := ["Primary genome match is not closest match."], error := none } := by decide +kernel

/-- default mode, a tie in the distances: the first minimum is the closest genome -/
example : Gen.classify demoForest [3, 2, 3] (List.range 3) [2, 1, 1] false =
    .ok { success := true, predicted_taxon := some 2,
          primary_match := some { genome := 1, distance := 1, matched_taxon := some 2 },
          closest_match := { genome := 1, distance := 1, matched_taxon := some 2 },
          warnings := [], error := none } := by decide

/-- the hypotheses of the strict-mode theorem are satisfiable -/
example : Gen.classify demoForest [4, 3] (List.range 2) [3, 4] true =
    .ok (resOf demoForest [4, 3] [3, 4] (classifyStrict demoForest [4, 3] [3, 4])) :=
  classify_strict_eq demoForest demoForest_wf [4, 3] [3, 4] rfl (by decide) (by decide)

end GambitV.Tie.Py
