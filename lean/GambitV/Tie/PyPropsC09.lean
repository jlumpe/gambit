import GambitV.Tie.PyPropsHelpers
import GambitV.Tie.PyResultItem
import GambitV.Props.C09
import GambitV.Props.C03

/-!
Property-level statements about the definitions translated from the current Python sources (`GambitV.Gen.*`, regenerated on every run):
the tie theorems composed with the property theorems of `Props/`.  C09: closest-genomes list.
-/
namespace GambitV.Tie.Py
open GambitV

/-- the closest-genomes list of the translated `get_result_item` is THE list the statement describes (`closestOk`): the `min N n`
nearest references in (distance, reference order) order; every entry carries its own distance and the taxon matched by that genome alone -/
theorem py_closest_ok (F : Forest) (hF : ForestWF F) (gtax ds : List Nat) (h : ds.length = gtax.length) (hne : ds ≠ [])
    (hT : ∀ t ∈ gtax, t < F.size) (strict : Bool) (cs : Option Int) (N : Nat) (inp : Int) :
    ∃ r, Gen.get_result_item F gtax () { classify_strict := strict, chunksize := cs, report_closest := (N : Int) } ds inp = .ok r
      ∧ closestOk ds N (r.closest_genomes.map (·.genome)) = true
      ∧ (∀ m ∈ r.closest_genomes, m.distance = ds.getD m.genome 0 ∧ m.matched_taxon = predictedSpec F (gtax.getD m.genome 0) (ds.getD m.genome 0)) := by
  refine ⟨_, get_result_item_eq F hF gtax ds h hne hT strict cs N inp, ?_, ?_⟩
  · simp only [List.map_map]
    have : ((fun (m : Py.GenomeMatch) => m.genome) ∘ gmOf F gtax ds) = id := rfl
    rw [this, List.map_id]
    exact C09.closestList_ok ds N
  · intro m hm
    obtain ⟨i, _, rfl⟩ := List.mem_map.1 hm
    exact ⟨rfl, C03.matchingTaxon_eq_spec _ _ _⟩

end GambitV.Tie.Py
