import GambitV.Tie.PyPropsHelpers
import GambitV.Tie.PyConsensus
import GambitV.Tie.PyClassify
import GambitV.Props.C10

/-!
Property-level statements about the definitions translated from the current Python sources (`GambitV.Gen.*`, regenerated on every run):
the tie theorems composed with the property theorems of `Props/`.  C10: strict classification, order independence.
-/
namespace GambitV.Tie.Py
open GambitV

/-- order independence of the translated `consensus_taxon`: permuting the matched taxa changes neither the consensus nor the set of
taxa reported as inconsistent -/
theorem py_consensus_perm (F : Forest) (hF : ForestWF F) (l₁ l₂ : List Nat) (hp : l₁.Perm l₂)
    (hT : ∀ t ∈ l₁, t < F.size) (hN : l₁.Nodup) :
    ∃ c o₁ o₂, Gen.consensus_taxon F l₁ = .ok (c, o₁) ∧ Gen.consensus_taxon F l₂ = .ok (c, o₂) ∧ (∀ x, x ∈ o₁ ↔ x ∈ o₂) := by
  have hT₂ : ∀ t ∈ l₂, t < F.size := fun t ht => hT t (hp.mem_iff.2 ht)
  have hN₂ : l₂.Nodup := hp.nodup_iff.1 hN
  obtain ⟨c₁, o₁, e₁, hc₁, ho₁⟩ := consensus_taxon_eq F hF l₁ hT hN
  obtain ⟨c₂, o₂, e₂, hc₂, ho₂⟩ := consensus_taxon_eq F hF l₂ hT₂ hN₂
  cases l₁ with
  | nil =>
    have : l₂ = [] := hp.nil_eq.symm
    subst this
    exact ⟨c₁, o₁, o₁, e₁, e₁, fun _ => Iff.rfl⟩
  | cons a l =>
    have hpos : 0 < F.size := Nat.lt_of_le_of_lt (Nat.zero_le _) (hT a List.mem_cons_self)
    have hne : ∀ t ∈ (a :: l).map F.path, t ≠ [] := by
      intro t ht
      obtain ⟨x, hx, rfl⟩ := List.mem_map.1 ht
      exact path_ne_nil F hpos x
    have hpm : ((a :: l).map F.path).Perm (l₂.map F.path) := hp.map _
    have hcons := C10.consensus_perm _ _ hne hpm
    have hoth := C10.others_perm _ _ hne hpm
    rw [hc₁, hc₂] at hcons
    rw [ho₁, ho₂] at hoth
    obtain rfl : c₁ = c₂ := Option.map_injective (fun _ _ => path_inj F hpos) hcons
    have hmem : ∀ (x : Nat) (l : List Nat), F.path x ∈ l.map F.path ↔ x ∈ l := by
      intro x l
      refine ⟨fun h => ?_, List.mem_map_of_mem⟩
      obtain ⟨y, hy, e⟩ := List.mem_map.1 h
      exact path_inj F hpos e ▸ hy
    exact ⟨c₁, o₁, o₂, e₁, e₂, fun x => by rw [← hmem x o₁, hoth, hmem]⟩

/-- the strict-mode statement (`strictOk`) holds of the translated `classify(…, strict=True)` -/
theorem py_classify_strict_ok (F : Forest) (hF : ForestWF F) (gtax ds : List Nat) (h : ds.length = gtax.length) (hne : ds ≠ [])
    (hT : ∀ t ∈ gtax, t < F.size) :
    ∃ r, Gen.classify F gtax (List.range gtax.length) ds true = .ok r
      ∧ strictOk F gtax ds r.success r.predicted_taxon (r.primary_match.map (·.genome)) r.closest_match.genome
          (classifyStrict F gtax ds).warnInconsistent r.error.isSome = true
      ∧ (r.warnings.contains "Query matched " = !(classifyStrict F gtax ds).warnInconsistent.isEmpty) := by
  refine ⟨resOf F gtax ds (classifyStrict F gtax ds), classify_strict_eq F hF gtax ds h hne hT, ?_, ?_⟩
  · have := C10.classifyStrict_ok F gtax ds hne h.symm
    simp only at this
    simp only [resOf, map_genome_gmOf]
    have he : (if (classifyStrict F gtax ds).failed = true then some "Matched taxa have no common ancestor." else none).isSome
        = (classifyStrict F gtax ds).failed := by
      cases (classifyStrict F gtax ds).failed <;> rfl
    rw [he]
    exact this
  · simp only [resOf]
    cases (classifyStrict F gtax ds).warnInconsistent.isEmpty <;>
      cases (classifyStrict F gtax ds).warnNotClosest <;> decide

/-! ### non-vacuity of `py_consensus_perm`: a permuted pair of three-taxon lists on `demoForest` -/

example : [3, 1, 2].Perm [2, 3, 1] ∧ (∀ t ∈ [3, 1, 2], t < demoForest.size) ∧ [3, 1, 2].Nodup := by decide

example : ForestWF demoForest := forestWF_of_check (by decide)

-- the conclusion on that pair: same consensus, the same taxa reported (in a different order)
example : Gen.consensus_taxon demoForest [3, 1, 2] = .ok (some 0, [3, 1, 2])
    ∧ Gen.consensus_taxon demoForest [2, 3, 1] = .ok (some 0, [2, 3, 1]) := by decide

end GambitV.Tie.Py
