import GambitV.Gen.PyGetattr
import GambitV.Tie.PyCsvColumns
import GambitV.Lemmas.PyRt
import GambitV.Lemmas.ListAux

/-!
Tie: `getattr_nested` of `gambit/results.py` as it stands in the *current* source (machine-translated in `Gen/PyGetattr.lean`) is the
attribute walk along the dot-separated names, and on the attribute paths of the CSV exporter's column table (`Gen.pyCsvColumns`) it
yields the cells of the model's row (`csvRow`, `Model/Export.lean`).  Core Lean only.
-/
namespace GambitV.Tie.Py
open GambitV GambitV.Py

/-- the steps of `getattr_nested` on a list of attribute names: `None` is passed through when asked to, a missing attribute raises -/
def walk (passNone : Bool) : Py.Obj → List (List Char) → Py.Res Py.Obj
  | o, [] => .ok o
  | o, a :: as =>
    if passNone && o.isNone then .ok .none
    else match o.getattr? a with
      | none => .raised .AttributeError
      | some o' => walk passNone o' as

def optText : Option (List Char) → Py.Obj
  | none => .none
  | some t => .text t

def taxObj (t : TaxonRec) : Py.Obj :=
  .record [("name".toList, .text t.name), ("rank".toList, optText t.rank), ("ncbi_id".toList, optText t.ncbiId),
           ("distance_threshold".toList, optText t.threshold)]

def optTax : Option TaxonRec → Py.Obj
  | none => .none
  | some t => taxObj t

/-- a result item as the attribute walk sees it (the attributes the exporter's paths mention) -/
def itemObj (it : ItemRec) : Py.Obj :=
  .record [("input".toList, .record [("label".toList, .text it.label)]),
           ("report_taxon".toList, optTax it.report),
           ("classifier_result".toList, .record [
              ("closest_match".toList, .record [("distance".toList, .text it.closestMatch.distanceText),
                                                 ("genome".toList, .record [("description".toList, .text it.closestMatch.genome.description)])]),
              ("next_taxon".toList, optTax it.next)])]

/-- the CSV cell of a walked value: `None` is the empty cell -/
def cellOf : Py.Obj → List Char
  | .text t => t
  | _ => []

/-- the body of the loop of `getattr_nested`, as the translator emits it -/
def loopBody : List Char → Gen.getattr_nested.St → Py.M Gen.getattr_nested.St Gen.getattr_nested.Ret Gen.getattr_nested.St :=
  fun x (s : Gen.getattr_nested.St) => (do
    let s : Gen.getattr_nested.St := { s with attr := x }
    let s ← (if (s.pass_none && (Py.Obj.isNone s.obj)) then
        (fun (s : Gen.getattr_nested.St) => (do
        let _ ← (throw (Py.Ctl.ret Py.Obj.none) : Py.M Gen.getattr_nested.St Gen.getattr_nested.Ret Unit)
        pure s : Py.M Gen.getattr_nested.St Gen.getattr_nested.Ret Gen.getattr_nested.St)) s
      else pure s)
    let _ ← Py.guard (Py.Obj.getattr? s.obj s.attr).isNone .AttributeError
    let s : Gen.getattr_nested.St := { s with obj := ((Py.Obj.getattr? s.obj s.attr).getD Py.Obj.none) }
    pure s : Py.M Gen.getattr_nested.St Gen.getattr_nested.Ret Gen.getattr_nested.St)

/-- one round of the loop: early return on a passed `None`, `AttributeError` on a missing attribute, else step to the attribute -/
theorem loopBody_eq (a : List Char) (s : Gen.getattr_nested.St) :
    loopBody a s =
      if s.pass_none && s.obj.isNone then .error (.ret .none)
      else match s.obj.getattr? a with
        | none => .error (.exc .AttributeError)
        | some o' => .ok { s with attr := a, obj := o' } := by
  unfold loopBody
  by_cases h : (s.pass_none && s.obj.isNone) = true
  · simp only [h, if_true]; rfl
  · simp only [h]
    cases hg : s.obj.getattr? a <;> simp [hg, bind, Except.bind, pure, Except.pure]

/-- the loop of `getattr_nested` from any state: the walk from the state's `obj` -/
theorem getattr_loop (names : List (List Char)) (s : Gen.getattr_nested.St) :
    Py.finish (fun _ => .raised .Other) (do
      let r ← Py.forEach names loopBody s
      let s : Gen.getattr_nested.St := r.1
      let _ ← (throw (Py.Ctl.ret s.obj) : Py.M Gen.getattr_nested.St Gen.getattr_nested.Ret Unit)
      pure s) = walk s.pass_none s.obj names := by
  induction names generalizing s with
  | nil => rfl
  | cons a as ih =>
    rw [forEach_cons, loopBody_eq]
    unfold walk
    by_cases h : (s.pass_none && s.obj.isNone) = true
    · simp only [h, if_true]; rfl
    · simp only [h]
      cases hg : s.obj.getattr? a with
      | none => rfl
      | some o' => exact ih { s with attr := a, obj := o' }

/-- `getattr_nested(obj, 'a.b.c', pass_none)` as the source has it now = the attribute walk along the dot-separated names -/
theorem getattr_nested_eq (o : Py.Obj) (path : List Char) (pn : Bool) :
    Gen.getattr_nested o path pn = walk pn o (Py.splitOnChar '.' path) := by
  unfold Gen.getattr_nested Gen.getattr_nested.run
  exact getattr_loop _ _

theorem cellOf_text (t : List Char) : cellOf (.text t) = t := rfl
theorem cellOf_none : cellOf .none = [] := rfl
theorem cellOf_optText (o : Option (List Char)) : cellOf (optText o) = o.getD [] := by cases o <;> rfl

/-- the cell the current source computes for a column path -/
def genCell (it : ItemRec) (p : String) : List Char :=
  match Gen.getattr_nested (itemObj it) p.toList true with
  | .ok o => cellOf o
  | _ => []

theorem walk_nil (pn : Bool) (o : Py.Obj) : walk pn o [] = .ok o := rfl

theorem walk_none (a : List Char) (as : List (List Char)) : walk true .none (a :: as) = .ok .none := rfl

theorem walk_record (pn : Bool) (fs : List (List Char × Py.Obj)) (a : List Char) (as : List (List Char)) :
    walk pn (.record fs) (a :: as) =
      match (Py.Obj.record fs).getattr? a with
      | none => .raised .AttributeError
      | some o' => walk pn o' as := by
  rw [walk]
  simp only [Py.Obj.isNone, Bool.and_false]
  rfl

/-- attribute names are compared as strings: deciding `"a".toList == "b".toList` would decode both literals -/
theorem getattr?_record_cons (s t : String) (v : Py.Obj) (fs : List (List Char × Py.Obj)) :
    (Py.Obj.record ((s.toList, v) :: fs)).getattr? t.toList =
      if s = t then some v else (Py.Obj.record fs).getattr? t.toList := by
  by_cases h : s = t <;> simp [Py.Obj.getattr?, toList_beq, h]

/-- the attribute paths of the current table, split at the dots.  The characters of a literal are read off by unifying it with
`String.ofList _` (`String.toList_ofList`); evaluating `String.toList` on it runs the UTF-8 decoder, which is far dearer -/
theorem csv_paths_split : Gen.pyCsvColumns.map (fun c => Py.splitOnChar '.' c.2.toList) =
    [["input", "label"], ["report_taxon", "name"], ["report_taxon", "rank"], ["report_taxon", "ncbi_id"],
     ["report_taxon", "distance_threshold"], ["classifier_result", "closest_match", "distance"],
     ["classifier_result", "closest_match", "genome", "description"], ["classifier_result", "next_taxon", "name"],
     ["classifier_result", "next_taxon", "rank"], ["classifier_result", "next_taxon", "ncbi_id"],
     ["classifier_result", "next_taxon", "distance_threshold"]].map (List.map String.toList) := by
  simp only [Gen.pyCsvColumns, List.map]
  repeat rw [String.toList_ofList]
  decide +kernel

/-- the four attributes of an optional taxon as cells: empty when the taxon is `None` -/
theorem optTax_cells (o : Option TaxonRec) :
    (∃ x, walk true (optTax o) ["name".toList] = .ok x ∧ cellOf x = optCell (o.map (·.name))) ∧
    (∃ x, walk true (optTax o) ["rank".toList] = .ok x ∧ cellOf x = optCell (o.bind (·.rank))) ∧
    (∃ x, walk true (optTax o) ["ncbi_id".toList] = .ok x ∧ cellOf x = optCell (o.bind (·.ncbiId))) ∧
    (∃ x, walk true (optTax o) ["distance_threshold".toList] = .ok x ∧ cellOf x = optCell (o.bind (·.threshold))) := by
  cases o with
  | none => exact ⟨⟨_, walk_none _ _, rfl⟩, ⟨_, walk_none _ _, rfl⟩, ⟨_, walk_none _ _, rfl⟩, ⟨_, walk_none _ _, rfl⟩⟩
  | some t =>
    simp only [optTax, taxObj, walk_record, walk_nil, getattr?_record_cons, String.reduceEq, if_true, if_false]
    exact ⟨⟨_, rfl, rfl⟩, ⟨_, rfl, cellOf_optText _⟩, ⟨_, rfl, cellOf_optText _⟩, ⟨_, rfl, cellOf_optText _⟩⟩

/-- two maps of one list, each known as a literal, are related member by member if the literals are, pair by pair -/
theorem forall_mem_of_map_eq {α β γ : Type} {R : β → γ → Prop} {l : List α} {f : α → β} {g : α → γ} {bs : List β}
    {cs : List γ} (hf : l.map f = bs) (hg : l.map g = cs) (h : ∀ p ∈ bs.zip cs, R p.1 p.2) : ∀ a ∈ l, R (f a) (g a) := by
  subst hf hg
  intro a ha
  exact h (f a, g a) (by rw [List.zip_map']; exact List.mem_map.2 ⟨a, ha, rfl⟩)

/-- every column path of the current table walks without error on every item, to the value the model puts in that cell -/
theorem py_csv_cells (it : ItemRec) :
    ∀ c ∈ Gen.pyCsvColumns, ∃ o, Gen.getattr_nested (itemObj it) c.2.toList true = .ok o ∧ some (cellOf o) = pathCell it c.2 := by
  simp only [getattr_nested_eq]
  refine forall_mem_of_map_eq (R := fun names cell => ∃ o, walk true (itemObj it) names = .ok o ∧ some (cellOf o) = cell)
    csv_paths_split (csv_row_eq it) ?_
  obtain ⟨r1, r2, r3, r4⟩ := optTax_cells it.report
  obtain ⟨n1, n2, n3, n4⟩ := optTax_cells it.next
  simp only [List.map, csvRow, List.zip_cons_cons, List.zip_nil_right, List.forall_mem_cons, itemObj, walk_record,
    getattr?_record_cons, String.reduceEq, if_true, if_false, walk_nil, Option.some.injEq]
  exact ⟨⟨_, rfl, rfl⟩, r1, r2, r3, r4, ⟨_, rfl, rfl⟩, ⟨_, rfl, rfl⟩, n1, n2, n3, n4, fun _ h => nomatch h⟩

/-- without `pass_none` a `None` along the path is an error, not an empty cell -/
theorem getattr_nested_none_raises (a : List Char) (rest : List (List Char)) :
    walk false .none (a :: rest) = .raised .AttributeError := rfl

/-- the row computed by the current `COLUMNS` table and the current `getattr_nested` is the model's row, for every item -/
theorem py_csv_row (it : ItemRec) : Gen.pyCsvColumns.map (fun c => genCell it c.2) = csvRow it := by
  apply (List.map_inj_right (fun _ _ h => Option.some.inj h)).mp
  rw [List.map_map, ← csv_row_eq]
  apply List.map_congr_left
  intro c hc
  obtain ⟨o, ho, hcell⟩ := py_csv_cells it c hc
  simp only [Function.comp, genCell, ho]
  exact hcell

/-! ### the statements are not vacuous -/

/-- an item for the examples, with the given reported and next taxon -/
def exItem (r n : Option TaxonRec) : ItemRec :=
  { label := "q1".toList, report := r, next := n,
    closestMatch := { genome := { key := "g".toList, description := "desc".toList }, distanceBits := 0, distanceText := "0.25".toList, matched := none },
    primary := none, predicted := none, closestGenomes := [], success := true, warnings := [], error := none }
def exTaxon : TaxonRec := { key := "k".toList, name := "Escherichia".toList, rank := some "genus".toList, ncbiId := none, threshold := some "0.5".toList }

/-- no next taxon: the walk stops at the `None` and the cell is empty -/
example : Gen.getattr_nested (itemObj (exItem none none)) "classifier_result.next_taxon.rank".toList true = .ok .none := by
  simp only [itemObj, exItem, optTax]
  repeat rw [String.toList_ofList]
  rfl
/-- the same walk without `pass_none` raises -/
example : Gen.getattr_nested (itemObj (exItem none none)) "classifier_result.next_taxon.rank".toList false = .raised .AttributeError := by
  simp only [itemObj, exItem, optTax]
  repeat rw [String.toList_ofList]
  rfl
/-- with a next taxon the walk reaches its rank -/
example : Gen.getattr_nested (itemObj (exItem none (some exTaxon))) "classifier_result.next_taxon.rank".toList true = .ok (.text "genus".toList) := by
  simp only [itemObj, exItem, optTax, taxObj, exTaxon, optText]
  repeat rw [String.toList_ofList]
  rfl
/-- an attribute that is not there raises, also with `pass_none` -/
example : Gen.getattr_nested (itemObj (exItem none none)) "input.nolabel".toList true = .raised .AttributeError := by rfl
/-- the whole row on an item with a reported taxon whose `ncbi_id` is `None`: the translated walk run on every path of the table -/
example : Gen.pyCsvColumns.map (fun c => genCell (exItem (some exTaxon) none) c.2) =
    ["q1", "Escherichia", "genus", "", "0.5", "0.25", "desc", "", "", "", ""].map String.toList := by
  decide +kernel

end GambitV.Tie.Py
